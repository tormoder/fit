import FitModel.Strings
import FitProofs.SortBy
/-!
  A check of a string table that the kernel evaluates in time close to linear in the table, sound for
  `tableOK`.

  `tableOK` scans all constants for every covered value, and `strOf` cuts each name out of its name
  constant from the start.  Here every run is cut in one pass (`cuts`), the table becomes its list of
  (value, printed string) (`entries`), and that list is compared with the constants, both sorted by
  value, in two forward walks (`matchForward`), one in each direction.  The sort is `sortBy`, an insertion
  sort, which costs length + inversions: 155 of the 177 generated tables are ascending, the rest have at most
  32 inversions.

  The larger cost lies in the kernel's cache: it keys reductions by the hash of the term, and the hash
  of a numeral is its low 64 bits.  `unpack` leaves its tail as `unpack l (n / 256 / … / 256)`; for all
  constants of a type the packed `n` begins with the type's name, so these tails share one hash,
  differ only at the innermost leaf, and every lookup compares them at full depth.  `unpackE`
  evaluates the remaining number at every step; the generated proofs rewrite with `unpack_eq` first.
-/
namespace Fit.Str

def unpackE : Nat → Nat → Str
  | 0, _ => []
  | l + 1, 0 => 0 :: unpackE l 0
  | l + 1, m + 1 => (m + 1) % 256 :: unpackE l ((m + 1) / 256)

theorem unpack_eq : unpack = unpackE := by
  funext l n
  induction l generalizing n with
  | zero => rfl
  | succ l ih => cases n <;> simp [unpack, unpackE, ih]

/-- `name[a:b], name[b:c], …` for the index array `a, b, c, …`, as long as it ascends; `s` is
    `name` from position `a` on -/
def cuts (s : Str) (a : Nat) : List Nat → List Str
  | [] => []
  | b :: idx => if a ≤ b then s.take (b - a) :: cuts (s.drop (b - a)) b idx else []

theorem cuts_getElem? {name : Str} {idx : List Nat} {a k : Nat} {x : Str}
    (h : (cuts (name.drop a) a idx)[k]? = some x) : x = slice name (a :: idx) k := by
  induction idx generalizing a k with
  | nil => simp [cuts] at h
  | cons b idx ih =>
    rw [cuts] at h
    by_cases hab : a ≤ b
    · rw [if_pos hab] at h
      cases k with
      | zero => exact (Option.some.inj h).symm
      | succ k =>
        rw [List.getElem?_cons_succ, List.drop_drop, Nat.add_sub_cancel' hab] at h
        exact ih h
    · simp [hab] at h

def runStrs (r : Run) : List Str :=
  match r.index with
  | [] => List.replicate (r.hi - r.lo + 1).toNat r.name
  | a :: idx => cuts (r.name.drop a) a idx

def runEntries (r : Run) : List (Int × Str) := (intRange r.lo r.hi).zip (runStrs r)

/-- `cuts` numbers a run's strings from its first index position, `runStr` from `r.off`: they agree on
    `r.lo … r.hi` when the run starts at its offset (or has no index array) -/
def runAligned (r : Run) : Bool :=
  (r.index.isEmpty || r.off == r.lo) && decide ((intRange r.lo r.hi).length ≤ (runStrs r).length)

theorem mem_intRange (lo hi i : Int) : i ∈ intRange lo hi ↔ lo ≤ i ∧ i ≤ hi := by
  simp only [intRange, List.mem_map, List.mem_range, Int.ofNat_eq_natCast]
  constructor
  · rintro ⟨k, hk, rfl⟩
    omega
  · intro h
    exact ⟨(i - lo).toNat, by omega, by omega⟩

theorem mem_runEntries {r : Run} (h : runAligned r = true) {i : Int} (hi : r.lo ≤ i ∧ i ≤ r.hi) :
    (i, runStr r i) ∈ runEntries r := by
  simp only [runAligned, Bool.and_eq_true, Bool.or_eq_true, beq_iff_eq, decide_eq_true_eq, intRange,
    List.length_map, List.length_range] at h
  obtain ⟨hoff, hlen⟩ := h
  obtain ⟨x, hx⟩ : ∃ x, (runStrs r)[(i - r.lo).toNat]? = some x :=
    ⟨_, List.getElem?_eq_getElem (by omega)⟩
  have hs : x = runStr r i := by
    unfold runStrs at hx
    unfold runStr
    cases he : r.index with
    | nil =>
      rw [he] at hx
      exact (List.mem_replicate.1 (List.mem_of_getElem? hx)).2
    | cons a idx =>
      rw [he] at hx hoff
      rw [hoff.resolve_left (by simp)]
      exact cuts_getElem? hx
  refine List.mem_of_getElem? (i := (i - r.lo).toNat) (List.getElem?_zip_eq_some.2 ⟨?_, hs ▸ hx⟩)
  rw [intRange, List.getElem?_map, List.getElem?_range (by omega), Option.map_some]
  exact congrArg some (by simp only [Int.ofNat_eq_natCast]; omega)

def entries (T : Table) : List (Int × Str) :=
  match T.shape with
  | .runs rs => rs.flatMap runEntries
  | .single off name index => runEntries ⟨off, off + (index.length : Int) - 2, off, name, index⟩
  | .map es => es

def entriesAligned (T : Table) : Bool :=
  match T.shape with
  | .runs rs => rs.all runAligned
  | .single off name index => runAligned ⟨off, off + (index.length : Int) - 2, off, name, index⟩
  | .map _ => true

/-- the `.single` method on the values of its (unsigned) type -/
theorem strOf_single {T : Table} {off : Int} {name : Str} {index : List Nat} (hsh : T.shape = .single off name index)
    (hf : shapeFits T = true) {i : Int} :
    (off ≤ i ∧ i ≤ off + (index.length : Int) - 2 → strOf T i = slice name index (i - off).toNat) ∧
    (0 ≤ i ∧ i < (2 ^ T.bits : Nat) → ¬(off ≤ i ∧ i ≤ off + (index.length : Int) - 2) → strOf T i = dflt T i) := by
  unfold shapeFits at hf
  unfold strOf
  simp only [hsh, Bool.and_eq_true, decide_eq_true_eq, Bool.not_eq_eq_eq_not, Bool.not_true] at hf ⊢
  obtain ⟨⟨hoff, hfit⟩, hsg⟩ := hf
  simp only [hsg, Bool.false_eq_true, ↓reduceIte]
  generalize ((2 ^ T.bits : Nat) : Int) = P at *
  refine ⟨fun hr => ?_, fun hi hr => if_pos (Or.inr ?_)⟩
  · -- unsigned subtraction does not wrap: `0 ≤ i - off < 2 ^ bits`
    rw [Int.emod_eq_of_lt (by omega) (by omega), if_neg (by omega)]
  · by_cases hlen : index.length = 0
    · -- degenerate empty index array: every value takes the default branch
      have := Int.emod_nonneg (i - off) (by omega : P ≠ 0)
      omega
    by_cases hlt : i < off
    · -- unsigned wrap-around: the difference becomes i - off + 2^bits, beyond the index array
      rw [Int.emod_eq_add_self_emod, Int.emod_eq_of_lt] <;> omega
    · rw [Int.emod_eq_of_lt] <;> omega

theorem entries_covered {T : Table} {e : Int × Str} (h : e ∈ entries T) : e.1 ∈ covered T := by
  unfold entries at h
  unfold covered
  cases hs : T.shape with
  | runs rs =>
    rw [hs] at h
    obtain ⟨r, hr, he⟩ := List.mem_flatMap.1 h
    exact List.mem_flatMap.2 ⟨r, hr, (List.of_mem_zip he).1⟩
  | single off name index =>
    rw [hs] at h
    exact (List.of_mem_zip h).1
  | map es =>
    rw [hs] at h
    exact List.mem_map_of_mem h

theorem covered_entries {T : Table} (hf : shapeFits T = true) (hok : entriesAligned T = true) {i : Int}
    (h : i ∈ covered T) : (i, strOf T i) ∈ entries T := by
  unfold covered at h
  unfold entries
  unfold entriesAligned at hok
  cases hs : T.shape with
  | runs rs =>
    unfold strOf
    simp only [hs, List.all_eq_true] at h hok ⊢
    obtain ⟨r, hr, hi⟩ := List.mem_flatMap.1 h
    obtain ⟨r', hfind⟩ := Option.isSome_iff_exists.1
      (List.find?_isSome (p := fun r => decide (r.lo ≤ i ∧ i ≤ r.hi)).2
        ⟨r, hr, decide_eq_true ((mem_intRange _ _ _).1 hi)⟩)
    have hm := List.mem_of_find?_eq_some hfind
    have hp := List.find?_some hfind
    rw [hfind]
    exact List.mem_flatMap.2 ⟨r', hm, mem_runEntries (hok r' hm) (of_decide_eq_true hp)⟩
  | single off name index =>
    simp only [hs] at h hok ⊢
    have hi := (mem_intRange _ _ _).1 h
    have hne : index.isEmpty = false := by
      cases index with
      | nil => simp at hi; omega
      | cons _ _ => rfl
    have hent := mem_runEntries hok hi
    simp only [runStr, hne] at hent
    rw [(strOf_single hs hf).1 hi]
    exact hent
  | map es =>
    unfold strOf
    simp only [hs] at h ⊢
    obtain ⟨e, he, rfl⟩ := List.mem_map.1 h
    obtain ⟨e', hfind⟩ := Option.isSome_iff_exists.1
      (List.find?_isSome (p := fun e' => e'.1 == e.1).2 ⟨e, he, beq_self_eq_true _⟩)
    have hk := List.find?_some hfind
    rw [hfind, ← beq_iff_eq.1 hk]
    exact List.mem_of_find?_eq_some hfind

def skipTo {β} (p : β → Bool) : List β → List β
  | [] => []
  | b :: bs => if p b then b :: bs else skipTo p bs

theorem skipTo_spec {β} {p : β → Bool} {bs : List β} {b : β} {rest : List β}
    (h : skipTo p bs = b :: rest) : p b = true ∧ ∀ x ∈ b :: rest, x ∈ bs := by
  induction bs with
  | nil => simp [skipTo] at h
  | cons c bs ih =>
    rw [skipTo] at h
    by_cases hp : p c = true
    · rw [if_pos hp] at h
      obtain ⟨rfl, rfl⟩ := List.cons.inj h
      exact ⟨hp, fun _ hx => hx⟩
    · rw [if_neg hp] at h
      exact ⟨(ih h).1, fun x hx => List.mem_cons_of_mem _ ((ih h).2 x hx)⟩

/-- every `a` has a partner in `bs`, found by going forward only: complete when partners lie in
    the order of the `a`s (both lists ascending); several `a`s may share one partner -/
def matchForward {α β} (p : α → β → Bool) : List α → List β → Bool
  | [], _ => true
  | a :: as, bs =>
    match skipTo (p a) bs with
    | [] => false
    | b :: rest => matchForward p as (b :: rest)

theorem matchForward_sound {α β} {p : α → β → Bool} {as : List α} {bs : List β} (h : matchForward p as bs = true) :
    ∀ a ∈ as, ∃ b ∈ bs, p a b = true := by
  induction as generalizing bs with
  | nil => simp
  | cons a as ih =>
    rw [matchForward] at h
    split at h
    · cases h
    · rename_i b rest hs
      obtain ⟨hp, hmem⟩ := skipTo_spec hs
      intro x hx
      rcases List.mem_cons.1 hx with rfl | hx
      · exact ⟨b, hmem b List.mem_cons_self, hp⟩
      · obtain ⟨y, hy, hpy⟩ := ih h x hx
        exact ⟨y, hmem y hy, hpy⟩

def constsByValue (T : Table) : List (Str × Int) := sortBy (fun a b => decide (a.2 < b.2)) T.consts

def entriesByValue (T : Table) : List (Int × Str) := sortBy (fun a b => decide (a.1 < b.1)) (entries T)

def fastOK (T : Table) : Bool :=
  shapeFits T && entriesAligned T &&
  matchForward (fun e c => c.2 == e.1 && trim T c.1 == e.2) (entriesByValue T) (constsByValue T) &&
  matchForward (fun c e => c.2 == e.1) (constsByValue T) (entriesByValue T)

theorem tableOK_of_fast (T : Table) (h : fastOK T = true) : tableOK T = true := by
  simp only [fastOK, Bool.and_eq_true] at h
  obtain ⟨⟨⟨hf, hok⟩, h1⟩, h2⟩ := h
  have hname : ∀ i ∈ covered T, ∃ c ∈ T.consts, c.2 = i ∧ trim T c.1 = strOf T i := by
    intro i hi
    obtain ⟨c, hc, hp⟩ := matchForward_sound h1 _ (mem_sortBy.2 (covered_entries hf hok hi))
    simp only [Bool.and_eq_true, beq_iff_eq] at hp
    exact ⟨c, mem_sortBy.1 hc, hp⟩
  have hval : ∀ i ∈ covered T, T.consts.any (fun c => c.2 == i) = true := by
    intro i hi
    obtain ⟨c, hc, hv, _⟩ := hname i hi
    exact List.any_eq_true.2 ⟨c, hc, beq_iff_eq.2 hv⟩
  have hcov : ∀ c ∈ T.consts, c.2 ∈ covered T := by
    intro c hc
    obtain ⟨e, he, hp⟩ := matchForward_sound h2 c (mem_sortBy.2 hc)
    exact beq_iff_eq.1 hp ▸ entries_covered (mem_sortBy.1 he)
  simp only [tableOK, specOK, hf, Bool.true_and, Bool.and_eq_true, List.all_eq_true,
    List.contains_iff_mem]
  refine ⟨⟨fun i hi => ?_, hcov⟩, hval⟩
  obtain ⟨c, hc, hv, hs⟩ := hname i hi
  rw [if_pos (hval i hi)]
  exact List.any_eq_true.2 ⟨c, hc, by simp only [hv, hs, beq_self_eq_true, Bool.and_self]⟩

theorem all_tableOK_of_fast (l : List Table) (h : l.all fastOK = true) : l.all tableOK = true := by
  rw [List.all_eq_true] at h ⊢
  exact fun T hT => tableOK_of_fast T (h T hT)

end Fit.Str
