import FitModel.Encode
import FitModel.WF
import FitModel.Gen.Profile
import FitProofs.Crc
import FitProofs.Codec
import FitProps.C14
import FitProofs.EncodeItems
import FitProofs.EncodeFile
import FitProofs.DecodeAccepts
import FitProps.C04
import FitProps.GenWF
import FitProofs.IntegFrame
/-!
  C05 — Encode emits a well-formed, self-describing FIT stream.

  In layers: the frame (a header carrying the data size of the records that follow, header CRC, file
  CRC, and the values written back into the File); the records (a definition followed by data
  records of exactly the declared sizes; which fields a definition names); the whole output; and
  what the decoder's entry points make of it — `Decode` on `FileInDomain`, `CheckIntegrity` for every
  File with a legal header.
-/
namespace Fit.Props.C05
open Fit Fit.Crc

/-- a successful Encode has finished some record body -/
theorem encode_ok_finish (P : Profile) (arch : Endian) (f f' : FileSt) (bs : Bytes)
    (h : encode P arch f = .ok bs f') : ∃ body, bs = (finishEncode f body).1 ∧ f' = (finishEncode f body).2 := by
  obtain ⟨_, body, _, _, _, h1, h2⟩ := encode_ok h
  exact ⟨body, h1, h2⟩

/-- **Shape of what Encode writes**: header bytes, record bytes, file CRC; and the File's header
    data size, header CRC (14-byte headers) and file CRC afterwards are the values written. -/
theorem encode_frame (P : Profile) (arch : Endian) (f f' : FileSt) (bs : Bytes)
    (h : encode P arch f = .ok bs f') :
    ∃ body : Bytes,
      bs = (marshalHeader { f.hdr with dataSize := body.length % 4294967296 }).1 ++ body ++ natLE 2 f'.crc ∧
      f'.crc = (checksum ((marshalHeader { f.hdr with dataSize := body.length % 4294967296 }).1 ++ body)).toNat ∧
      f'.hdr.dataSize = body.length % 4294967296 ∧
      (f.hdr.size = headerSizeCRC →
        f'.hdr.crc = (marshalHeader { f.hdr with dataSize := body.length % 4294967296 }).2) := by
  obtain ⟨body, h1, h2⟩ := encode_ok_finish P arch f f' bs h
  refine ⟨body, ?_, ?_, ?_, ?_⟩
  · rw [h1, h2]; rfl
  · rw [h2]; rfl
  · rw [h2]; simp only [finishEncode]; split <;> rfl
  · intro hs; rw [h2]; simp only [finishEncode, hs, ↓reduceIte]

/-- the written stream has CRC residue zero over header + records + file CRC: it passes the
    whole-file integrity check -/
theorem encode_residue_zero (P : Profile) (arch : Endian) (f f' : FileSt) (bs : Bytes)
    (h : encode P arch f = .ok bs f') : checksum bs = 0#16 := by
  obtain ⟨body, h1, h2, _, _⟩ := encode_frame P arch f f' bs h
  simp only at h1 h2
  rw [h1, h2, natLE2_lo_hi]
  exact Props.C14.residue _

/-- a 14-byte header is written with its own CRC: the 14 header bytes have residue zero -/
theorem header_residue_zero (h : Header) (hs : h.size = headerSizeCRC) :
    checksum (marshalHeader h).1 = 0#16 := by
  simp only [marshalHeader, hs, ↓reduceIte, natLE2_lo_hi]
  exact Props.C14.residue _

/-- the header declares the number of record bytes that follow -/
theorem header_declares_data_size (h : Header) (hd : h.dataSize < 4294967296) :
    leNat (((marshalHeader h).1.drop 4).take 4) = h.dataSize := by
  have e : ((marshalHeader h).1.drop 4).take 4 = natLE 4 h.dataSize := by
    simp only [marshalHeader]
    split <;> simp [natLE]
  rw [e, leNat_natLE]
  exact Nat.mod_eq_of_lt hd

theorem encodeString_length (b : Bytes) (n : Nat) (bs : Bytes) (h : encodeString b n = .ok bs) :
    bs.length = n :=
  Fit.encodeString_length h

/-- every data record carries, per field, the number of bytes its definition declares: scalars
    of a native type the Go value's width, time and coordinate fields 4 bytes, strings the
    profile's fixed length -/
theorem encodeScalar_length (arch : Endian) (pf : PField) (k : Sc) (v : Val) (bs : Bytes)
    (h : encodeScalar arch pf k v = .ok bs) :
    (tcKind pf.tcode ≠ .native → bs.length = 4) ∧
    (tcKind pf.tcode = .native → tcBase pf.tcode ≠ Base.string → bs.length = scWidth k) ∧
    (tcKind pf.tcode = .native → tcBase pf.tcode = Base.string → bs.length = pf.length) := by
  have hlen := Fit.encodeScalar_length h
  refine ⟨fun hk => ?_, fun hk hs => ?_, fun hk hs => ?_⟩
  · rw [hlen, if_neg hk]
  · rw [hlen, if_pos hk, if_neg hs]
  · rw [hlen, if_pos hk, if_pos hs]

/-- **Self-describing records.** On a well-formed profile, what `Encode` writes for one message
    (file_id, file_creator, timestamp_correlation and every single-valued container field go
    through `encodeOne`) is the serialisation of a definition record followed by a data record of
    the same local type carrying, per declared field, exactly the declared number of bytes; the
    definition's counts and sizes fit their one-byte fields. -/
theorem encode_one_self_describing (P : Profile) (hwf : ProfileWF P = true) (arch : Endian) (m : Msg) (bs : Bytes)
    (h : encodeOne P arch m = .ok bs) :
    ∃ (fs : List PField) (parts : List Bytes),
      bs = serialize [.defn (defOf arch m.num fs) false, .data 0 parts []] ∧
      FieldsFit (defOf arch m.num fs).fields parts ∧ DefnWF (defOf arch m.num fs) false := by
  obtain ⟨fs, parts, h1, h2, h3, _⟩ := encodeOne_items hwf h
  exact ⟨fs, parts, h1, h2, h3⟩

/-- … and therefore the decoder's record loop, wherever it meets these bytes, reads them back as
    exactly that definition and that data record (Framing). -/
theorem encode_one_read_back (P : Profile) (hwf : ProfileWF P = true) (arch : Endian) (m : Msg) (bs : Bytes)
    (h : encodeOne P arch m = .ok bs) :
    ∃ its : List Item, bs = serialize its ∧
      ∀ (limit fuel : Nat) (cont : DecSt → DP) (st : DecSt) (s : SpecSt) (tail : Bytes),
        0 < st.defs.length → s.rest = bs ++ tail → st.n + bs.length ≤ limit →
        match stepItems P st its with
        | .ok st' =>
          runSpecD limit (decodeFileData P limit (fuel + its.length) st cont) st.n s =
            runSpecD limit (decodeFileData P limit fuel st' cont) (st.n + bs.length)
              { s with rest := tail, taken := s.taken + bs.length } ∧ st'.n = st.n + bs.length
        | .stop o =>
          ∃ e, (runSpecD limit (decodeFileData P limit (fuel + its.length) st cont) st.n s).1 = .inl e ∧
            e.err = (exitOf o).err := by
  obtain ⟨its, hbs, hfit⟩ := encodeOne_self_describing hwf h
  refine ⟨its, hbs, ?_⟩
  intro limit fuel cont st s tail hd hs hl
  subst hbs
  exact run_items P limit cont its fuel st st.n s tail (hfit st hd) hs hl rfl

/-- **Message groups** (records, laps, events, …: every slice-valued container field): one
    definition record with the union of the valid fields, then one data record per message, each
    carrying exactly the declared bytes. `_partial`: the weaker form, with a premise `d.fields.length < 256` that the
    proof does not use. -/
theorem encode_group_self_describing_partial (P : Profile) (hwf : ProfileWF P = true) (arch : Endian)
    (ms : List Msg) (bs : Bytes) (hne : ms ≠ []) (h : encodeGroup P arch ms = .ok bs) :
    ∃ (d : DefMsg) (partss : List (List Bytes)),
      bs = serialize (.defn d false :: partss.map fun parts => Item.data 0 parts []) ∧
      partss.length = ms.length ∧
      (d.fields.length < 256 → ∀ st : DecSt, 0 < st.defs.length →
        ItemsFit P st (.defn d false :: partss.map fun parts => Item.data 0 parts [])) := by
  obtain ⟨d, partss, h1, h2, h3⟩ := encodeGroup_fitsD hwf hne h
  exact ⟨d, partss, h1, h2, fun _ st hst => ItemsFitD.toFit (h3 st.defs hst)⟩

/-- **Message groups, in full**: the shared definition never has more fields than the message
    struct (its fields come out strictly ordered by struct index), so the count fits its byte and the
    group is a definition record followed by one fitting data record per message — from any state of
    the decoder's definition table. -/
theorem encode_group_self_describing (P : Profile) (hwf : ProfileWF P = true) (arch : Endian) (ms : List Msg)
    (bs : Bytes) (hne : ms ≠ []) (h : encodeGroup P arch ms = .ok bs) :
    ∃ (d : DefMsg) (partss : List (List Bytes)),
      bs = serialize (.defn d false :: partss.map fun parts => Item.data 0 parts []) ∧
      partss.length = ms.length ∧
      ∀ defs : List (Option DefMsg), 0 < defs.length →
        ItemsFitD P defs (.defn d false :: partss.map fun parts => Item.data 0 parts []) :=
  encodeGroup_fitsD hwf hne h

/-- **The definitions `Encode` writes are accepted by `Decode`'s validation.** -/
theorem encoder_definitions_validate (P : Profile) (g : Nat) (pm : PMsg) (pf : PField) (h : fieldWF pm pf = true)
    (hgf : P.known g = true → P.getField g pf.num = some pf) :
    validateFieldDef P g (fdOf pf) = true :=
  validate_fdOf (fieldWF_facts h) hgf

/-- **What `Encode` writes is a well-formed, self-describing FIT file** (whole File, every container
    field): a 12-byte header, or a 14-byte header with its CRC, records that are the serialisation of items in which
    every data record fits the definition live for its local type — starting with the file_id
    definition and data record — and the file CRC. This is the layout of `whole_file_framing` (C02),
    on which `Decode` is shown to do what the record machine does. -/
theorem encode_wellformed (P : Profile) (hwf : ProfileWF P = true) (arch : Endian) (f f' : FileSt) (bs : Bytes)
    (h : encode P arch f = .ok bs f') (hs : f.hdr.size = headerSizeNoCRC ∨ f.hdr.size = headerSizeCRC) (ht : f.hdr.dtype = fitTag)
    (hsmall : bs.length < 4294967296) :
    ∃ (d0 : DefMsg) (parts0 : List Bytes) (rest : List Item),
      d0.global = f.fileId.num ∧ d0.localT = 0 ∧
      bs = frameBytesK (kindOfSize f.hdr.size) f.hdr.proto f.hdr.profile (serialize (.defn d0 false :: .data 0 parts0 [] :: rest)) ∧
      ItemsFitD P (List.replicate 16 none) (.defn d0 false :: .data 0 parts0 [] :: rest) :=
  Fit.encode_wellformed P hwf arch f f' bs h hs ht hsmall

/-- **`Decode` accepts what `Encode` wrote.** On a well-formed profile, for every File that `Encode`
    accepts and that lies in `FileInDomain` — a 12- or 14-byte ".FIT" header, a file_id message whose valid
    fields round-trip (the kinds covered in C06) and whose other fields hold the constructor's
    invalid values, and messages of known types only — the bytes written, followed by anything and
    read with either way of ending, decode successfully: header and header CRC, file_id prelude,
    `init` with the same file type, every definition validated, every data record parsed and routed,
    file CRC. (By C10 the same holds for the buffered run under any read schedule, and exactly the
    written bytes are consumed.) -/
theorem decode_accepts_encode (P : Profile) (hwf : ProfileWF P = true) (arch : Endian) (f f' : FileSt) (bs : Bytes)
    (h : encode P arch f = .ok bs f') (hdom : FileInDomain P arch f) (hsmall : bs.length < 4294967296)
    (o : Opts) (g : Globals) (tail : Bytes) (stop : Stop) :
    (decodeSpec P o .full g (bs ++ tail) stop).1.success :=
  Fit.decode_accepts_encode P hwf arch f f' bs h hdom hsmall o g tail stop


/-- **`CheckIntegrity` accepts what `Encode` wrote** (same domain): header CRC and file CRC are
    the ones the decoder's integrity pass recomputes. -/
theorem encode_passes_integrity (P : Profile) (hwf : ProfileWF P = true) (arch : Endian) (f f' : FileSt) (bs : Bytes)
    (h : encode P arch f = .ok bs f') (hdom : FileInDomain P arch f) (hsmall : bs.length < 4294967296)
    (o : Opts) (g : Globals) (tail : Bytes) (stop : Stop) :
    (decodeSpec P o .crcOnly g (bs ++ tail) stop).1.success :=
  C04.accepted_passes_integrity P o o g (bs ++ tail) stop
    (Fit.decode_accepts_encode P hwf arch f f' bs h hdom hsmall o g tail stop)

/-- the hypotheses are satisfiable: the regenerated profile is well-formed and encodes a file_id
    message (kernel-evaluated) -/
example : ProfileWF Gen.profile = true ∧
    (match encodeOne Gen.profile .le ⟨0, [.u 4, .u 1, .u 2, .u 3, .t 100 0 0, .u 5, .s []]⟩ with
     | .ok bs => bs.length
     | .error _ => 0) > 0 := ⟨C01.gen_wf, by decide +kernel⟩

/-- **Field sizes in the definitions `Encode` writes are multiples of their base-type size** (and
    strings, of base size 1, have the profile length): for every lookup entry of a well-formed profile -/
theorem encoder_sizes_multiple (pm : PMsg) (pf : PField) (h : fieldWF pm pf = true) :
    (fdOf pf).size % Base.size (tcBase pf.tcode) = 0 ∧ 1 ≤ (fdOf pf).size ∧ (fdOf pf).size ≤ 255 := by
  have facts := fieldWF_facts h
  obtain ⟨hsz, h255⟩ := szOf_eq facts
  have hpos := Base.size_pos facts.known
  have hl := facts.len1
  show szOf pf % _ = 0 ∧ 1 ≤ szOf pf ∧ szOf pf ≤ 255
  refine ⟨by rw [hsz]; exact Nat.mul_mod_right _ _, ?_, h255⟩
  rw [hsz]
  split
  · exact Nat.mul_le_mul hpos hl
  · omega

/-- **`CheckIntegrity` accepts whatever `Encode` writes, for every File** with a legal header (12 or 14
    bytes, the ".FIT" tag, a protocol version the decoder supports): the header declares the number of
    record bytes that follow, the header CRC (when there is one) and the trailing file CRC are the ones
    the integrity pass recomputes — no hypothesis on the messages (`integ_accepts_frame`: the integrity
    pass only hashes the record bytes). -/
theorem encode_passes_integrity_any (P : Profile) (arch : Endian) (f f' : FileSt) (bs : Bytes)
    (h : encode P arch f = .ok bs f') (hs : f.hdr.size = headerSizeNoCRC ∨ f.hdr.size = headerSizeCRC)
    (ht : f.hdr.dtype = fitTag) (hp : f.hdr.proto < 256 ∧ f.hdr.proto / 16 ≤ protoMajorMax)
    (hsmall : bs.length < 4294967296) (o : Opts) (g : Globals) (tail : Bytes) (stop : Stop) :
    (decodeSpec P o .crcOnly g (bs ++ tail) stop).1.success := by
  obtain ⟨_, body, _, _, _, hblen, rfl⟩ := encode_ok_frame h hs ht hsmall
  exact integ_accepts_frame P o _ g _ _ body tail stop hp.1 hp.2 hblen

/-- `getEncodeMesgDef`: the definition written for a message names the lookup entry of a struct
    position exactly when the message's value there is valid (a scalar different from the
    all-invalid message's, an array or string with at least one element) -/
theorem definition_carries_exactly_the_valid_fields (pm : PMsg) (m : Msg) (fs : List PField)
    (h : encodeMesgDef pm m = some fs) (i : Nat) (hi : i < m.vals.length) :
    (∃ pf ∈ fs, pf.sindex = i) ↔ isInvalidVal pm i (m.vals.getD i (.u 0)) = false := by
  obtain ⟨h1, h2⟩ := encodeMesgDef_spec h
  constructor
  · rintro ⟨pf, hp, rfl⟩
    exact (h1 pf hp).2
  · exact h2 i hi

/-- an array counts as set as soon as it has an element — whatever the elements are, so an invalid
    first element does not hide the valid ones behind it -/
theorem array_with_elements_is_carried (pm : PMsg) (m : Msg) (fs : List PField)
    (h : encodeMesgDef pm m = some fs) (i : Nat) (hi : i < m.vals.length) (x : Nat) (xs : List Nat)
    (hv : m.vals.getD i (.u 0) = .us (some (x :: xs))) :
    ∃ pf ∈ fs, pf.sindex = i := by
  rw [definition_carries_exactly_the_valid_fields pm m fs h i hi, hv]
  rfl

/-- a slice of messages shares one definition: it names every field that is valid in any of them -/
theorem group_definition_carries_every_valid_field (pm : PMsg) (hmw : msgWF pm = true) (ms : List Msg) (defs : List (List PField))
    (h : ms.mapM (encodeMesgDef pm) = some defs) (m : Msg) (hm : m ∈ ms) (i : Nat) (hi : i < m.vals.length)
    (hv : isInvalidVal pm i (m.vals.getD i (.u 0)) = false) :
    ∃ pf, fieldBySindex pm i = some pf ∧
      ∃ y ∈ defs.flatten.foldl (fun acc pf => insertField pf acc) [], y.num = pf.num := by
  have hu := unionFields_spec (msgWF_facts hmw) h
  obtain ⟨q, hq, rfl⟩ := hu.cover m hm i hi hv
  exact ⟨q, fieldBySindex_of_mem (msgWF_facts hmw) (hu.mem q hq), q, hq, rfl⟩

/-- a two-field message type for the example below -/
def demoMsg : PMsg where
  num := 20
  known := true
  inFields := true
  hasType := true
  hasCtor := true
  fields := [⟨0, 3, 2, 1⟩, ⟨1, 7, 34, 5⟩]
  layout := []
  fnames := []
  invalid := [Val.u 255, Val.us none]

/-- non-vacuity: the array starts with the invalid value 255 and goes on with a valid element — the
    definition names both fields -/
example : encodeMesgDef demoMsg ⟨20, [Val.u 70, Val.us (some [255, 3])]⟩ = some [⟨0, 3, 2, 1⟩, ⟨1, 7, 34, 5⟩] := by
  decide

end Fit.Props.C05
