import FitProofs.EncodeItems
import FitProofs.ItemSteps
/-
  `Encode` in terms of groups.  A message written alone is a group of one, the record area is the
  concatenation of its groups, and a successful group is one block: the union definition followed
  by one data record per message.
-/
namespace Fit

/-- the items of a block: the definition at local type 0 (the only one `Encode` uses), then its records -/
def blockItems (d : DefMsg) (partss : List (List Bytes)) : List Item :=
  .defn d false :: partss.map fun parts => Item.data 0 parts []

/-- a block with the messages its records were written from -/
structure MB where
  d : DefMsg
  partss : List (List Bytes)
  ms : List Msg

/-- what `Encode` writes of a container field: a slice whole, of a pointer field the first message -/
def slotMsgs (z : CSlot × List Msg) : List Msg := if z.1.many then z.2 else z.2.take 1

def validIn (pm : PMsg) (m : Msg) (pf : PField) : Prop :=
  isInvalidVal pm pf.sindex (m.vals.getD pf.sindex (.u 0)) = false

/-- the definition `Encode` writes for a slice: the union of its messages' own definitions -/
def unionFields (defs : List (List PField)) : List PField :=
  defs.flatten.foldl (fun acc pf => insertField pf acc) []

/-- the groups `Encode` writes after file_id, in its order: file_creator, timestamp_correlation
    (each a group of at most one), then every container field: a slice whole, a pointer field's
    first message -/
def restGroups (c : Container) (f : FileSt) : List (List Msg) :=
  f.creator.toList :: f.tscorr.toList :: (c.slots.zip f.slots).map slotMsgs

theorem slotMsgs_sub {z : CSlot × List Msg} {m : Msg} (h : m ∈ slotMsgs z) : m ∈ z.2 := by
  unfold slotMsgs at h
  split at h
  · exact h
  · exact List.mem_of_mem_take h

theorem restGroups_cases {c : Container} {f : FileSt} {g : List Msg} (h : g ∈ [f.fileId] :: restGroups c f) :
    g = [] ∨ (∃ m, g = [m] ∧ (m = f.fileId ∨ f.creator = some m ∨ f.tscorr = some m)) ∨
      ∃ z ∈ c.slots.zip f.slots, g = slotMsgs z := by
  simp only [restGroups, List.mem_cons, List.mem_map] at h
  rcases h with rfl | rfl | rfl | ⟨z, hz, rfl⟩
  · exact .inr (.inl ⟨_, rfl, .inl rfl⟩)
  · cases hc : f.creator with
    | none => exact .inl rfl
    | some m => exact .inr (.inl ⟨m, rfl, .inr (.inl rfl)⟩)
  · cases hc : f.tscorr with
    | none => exact .inl rfl
    | some m => exact .inr (.inl ⟨m, rfl, .inr (.inr rfl)⟩)
  · exact .inr (.inr ⟨z, hz, rfl⟩)

theorem restGroups_mem {c : Container} {f : FileSt} {g : List Msg} (h : g ∈ [f.fileId] :: restGroups c f) {m : Msg}
    (hm : m ∈ g) : (m = f.fileId ∨ f.creator = some m ∨ f.tscorr = some m) ∨ ∃ s ∈ f.slots, m ∈ s := by
  rcases restGroups_cases h with rfl | ⟨m', rfl, hm'⟩ | ⟨z, hz, rfl⟩
  · cases hm
  · exact .inl (List.mem_singleton.mp hm ▸ hm')
  · exact .inr ⟨z.2, (List.of_mem_zip hz).2, slotMsgs_sub hm⟩

theorem insertField_mem (pf : PField) (l : List PField) (x : PField) (h : x ∈ insertField pf l) : x = pf ∨ x ∈ l := by
  induction l with
  | nil => exact Or.inl (List.mem_singleton.mp h)
  | cons y ys ih =>
    unfold insertField at h
    split at h
    · exact Or.inr h
    · split at h
      · exact List.mem_cons.mp h
      · rcases List.mem_cons.mp h with rfl | h'
        · exact Or.inr (List.mem_cons_self ..)
        · exact (ih h').imp_right (List.mem_cons_of_mem _)

theorem foldl_insertField_mem (l acc : List PField) (x : PField)
    (h : x ∈ l.foldl (fun acc pf => insertField pf acc) acc) : x ∈ l ∨ x ∈ acc := by
  induction l generalizing acc with
  | nil => exact Or.inr h
  | cons y ys ih =>
    simp only [List.foldl_cons] at h
    rcases ih _ h with h1 | h1
    · exact Or.inl (List.mem_cons_of_mem _ h1)
    · rcases insertField_mem y acc x h1 with h2 | h2
      · exact Or.inl (h2 ▸ List.mem_cons_self ..)
      · exact Or.inr h2

/-- number and struct index identify a field alike: `insertField` tests numbers and orders by index -/
def FieldsInj (l : List PField) : Prop :=
  ∀ a ∈ l, ∀ b ∈ l, (a.num = b.num ↔ a.sindex = b.sindex)

theorem MsgFacts.inj {pm : PMsg} (h : MsgFacts pm) : FieldsInj pm.fields := fun a ha b hb =>
  ⟨fun e => by rw [allDistinct_inj (f := (·.num)) h.nums ha hb e],
   fun e => by rw [allDistinct_inj (f := (·.sindex)) h.sindexes ha hb e]⟩

theorem insertField_pairwise (all : List PField) (hinj : FieldsInj all) (pf : PField) (hpf : pf ∈ all)
    (l : List PField) (hl : ∀ x ∈ l, x ∈ all) (hs : l.Pairwise (fun a b => a.sindex < b.sindex)) :
    (insertField pf l).Pairwise (fun a b => a.sindex < b.sindex) := by
  induction l with
  | nil => exact List.pairwise_singleton _ _
  | cons x xs ih =>
    obtain ⟨hx, hxs⟩ := List.pairwise_cons.mp hs
    unfold insertField
    split
    · exact hs
    · rename_i hne
      split
      · rename_i hlt
        exact List.pairwise_cons.mpr ⟨fun y hy => by
          rcases List.mem_cons.mp hy with rfl | hy
          · exact hlt
          · exact Nat.lt_trans hlt (hx y hy), hs⟩
      · -- different fields have different struct indices, so `x` comes strictly before `pf`
        rename_i hnlt
        have hsne : x.sindex ≠ pf.sindex := fun e => hne ((hinj x (hl x (List.mem_cons_self ..)) pf hpf).mpr e)
        refine List.pairwise_cons.mpr ⟨fun y hy => ?_, ih (fun z hz => hl z (List.mem_cons_of_mem _ hz)) hxs⟩
        rcases insertField_mem pf xs y hy with rfl | hy
        · omega
        · exact hx y hy

theorem foldl_insertField_pairwise (all : List PField) (hinj : FieldsInj all) (xs acc : List PField)
    (hxs : ∀ x ∈ xs, x ∈ all) (hacc : ∀ x ∈ acc, x ∈ all) (hs : acc.Pairwise (fun a b => a.sindex < b.sindex)) :
    (xs.foldl (fun acc pf => insertField pf acc) acc).Pairwise (fun a b => a.sindex < b.sindex) := by
  induction xs generalizing acc with
  | nil => exact hs
  | cons x xs ih =>
    refine ih _ (fun y hy => hxs y (List.mem_cons_of_mem _ hy)) (fun y hy => ?_)
      (insertField_pairwise all hinj x (hxs x (List.mem_cons_self ..)) acc hacc hs)
    rcases insertField_mem x acc y hy with h | h
    · rw [h]; exact hxs x (List.mem_cons_self ..)
    · exact hacc y h

theorem pairwise_length_le (l : List PField) (h : l.Pairwise (fun a b => a.sindex < b.sindex)) (lo n : Nat) (hln : lo ≤ n)
    (hlo : ∀ x ∈ l, lo ≤ x.sindex) (hn : ∀ x ∈ l, x.sindex < n) : lo + l.length ≤ n := by
  induction l generalizing lo with
  | nil => exact hln
  | cons x xs ih =>
    obtain ⟨hx, hxs⟩ := List.pairwise_cons.mp h
    have h1 := hlo x (List.mem_cons_self ..)
    have h2 := ih hxs (x.sindex + 1) (hn x (List.mem_cons_self ..)) hx (fun y hy => hn y (List.mem_cons_of_mem _ hy))
    rw [List.length_cons]
    omega

theorem insertField_keeps (pf : PField) (l : List PField) (x : PField) (h : x ∈ l) : x ∈ insertField pf l := by
  induction l with
  | nil => cases h
  | cons y ys ih =>
    unfold insertField
    split
    · exact h
    · split
      · exact List.mem_cons_of_mem _ h
      · cases h with
        | head => exact List.mem_cons_self ..
        | tail _ h' => exact List.mem_cons_of_mem _ (ih h')

theorem insertField_has (pf : PField) (l : List PField) : ∃ y ∈ insertField pf l, y.num = pf.num := by
  induction l with
  | nil => exact ⟨pf, by simp [insertField], rfl⟩
  | cons x xs ih =>
    unfold insertField
    split
    · rename_i h; exact ⟨x, List.mem_cons_self .., h⟩
    · split
      · exact ⟨pf, List.mem_cons_self .., rfl⟩
      · obtain ⟨y, hy, hn⟩ := ih
        exact ⟨y, List.mem_cons_of_mem _ hy, hn⟩

theorem foldl_insertField_keeps (xs acc : List PField) (x : PField) (h : x ∈ acc) :
    x ∈ xs.foldl (fun acc pf => insertField pf acc) acc := by
  induction xs generalizing acc with
  | nil => exact h
  | cons y ys ih => exact ih _ (insertField_keeps y acc x h)

theorem foldl_insertField_has (xs acc : List PField) (x : PField) (h : x ∈ xs) :
    ∃ y ∈ xs.foldl (fun acc pf => insertField pf acc) acc, y.num = x.num := by
  induction xs generalizing acc with
  | nil => cases h
  | cons z zs ih =>
    simp only [List.foldl_cons]
    cases h with
    | head =>
      obtain ⟨y, hy, hn⟩ := insertField_has x acc
      exact ⟨y, foldl_insertField_keeps zs _ y hy, hn⟩
    | tail _ h' => exact ih _ h'

theorem foldl_insertField_sorted_eq (all : List PField) (hinj : FieldsInj all) (fs acc : List PField)
    (hfs : ∀ x ∈ fs, x ∈ all) (hacc : ∀ x ∈ acc, x ∈ all)
    (hs : (acc ++ fs).Pairwise (fun a b => a.sindex < b.sindex)) :
    fs.foldl (fun acc pf => insertField pf acc) acc = acc ++ fs := by
  induction fs generalizing acc with
  | nil => simp
  | cons pf fs ih =>
    have hins : ∀ pre : List PField, (∀ x ∈ pre, x ∈ all ∧ x.sindex < pf.sindex) → insertField pf pre = pre ++ [pf] := by
      intro pre
      induction pre with
      | nil => intro _; rfl
      | cons x xs ihx =>
        intro hx
        obtain ⟨hxa, hlt⟩ := hx x (List.mem_cons_self ..)
        have hne : ¬ x.num = pf.num := fun e =>
          absurd ((hinj x hxa pf (hfs pf (List.mem_cons_self ..))).mp e) (Nat.ne_of_lt hlt)
        rw [insertField, if_neg hne, if_neg (Nat.lt_asymm hlt), ihx fun y hy => hx y (List.mem_cons_of_mem _ hy)]
        rfl
    obtain ⟨_, _, hlt⟩ := List.pairwise_append.mp hs
    rw [List.foldl_cons, hins acc fun x hx => ⟨hacc x hx, hlt x hx pf (List.mem_cons_self ..)⟩,
      ih (acc ++ [pf]) (fun x hx => hfs x (List.mem_cons_of_mem _ hx))
        (fun x hx => by
          rcases List.mem_append.mp hx with h | h
          · exact hacc x h
          · rw [List.mem_singleton.mp h]; exact hfs pf (List.mem_cons_self ..))
        (by rwa [List.append_assoc]), List.append_assoc]
    rfl

/-- what `unionFields` yields for the definitions of the messages `ms` -/
structure UnionFacts (pm : PMsg) (ms : List Msg) (fs : List PField) : Prop where
  mem : ∀ pf ∈ fs, pf ∈ pm.fields
  valid : ∀ pf ∈ fs, ∃ m ∈ ms, validIn pm m pf
  sorted : fs.Pairwise (fun a b => a.sindex < b.sindex)
  small : fs.length < 256
  cover : ∀ m ∈ ms, ∀ i, i < m.vals.length → isInvalidVal pm i (m.vals.getD i (.u 0)) = false → ∃ q ∈ fs, q.sindex = i

theorem unionFields_spec {pm : PMsg} (hmw : MsgFacts pm) {ms : List Msg} {defs : List (List PField)}
    (h : ms.mapM (encodeMesgDef pm) = some defs) : UnionFacts pm ms (unionFields defs) := by
  have hflat : ∀ pf ∈ defs.flatten, pf ∈ pm.fields ∧ ∃ m ∈ ms, validIn pm m pf := by
    intro pf h1
    obtain ⟨l, hl, hpl⟩ := List.mem_flatten.mp h1
    obtain ⟨mx, hmx, hd⟩ := mapM_some_preimage h hl
    exact ⟨encodeMesgDef_mem hd pf hpl, mx, hmx, ((encodeMesgDef_spec hd).1 pf hpl).2⟩
  have hsub : ∀ pf ∈ unionFields defs, pf ∈ defs.flatten := fun pf hp =>
    (foldl_insertField_mem _ _ _ hp).resolve_right List.not_mem_nil
  have hsorted := foldl_insertField_pairwise pm.fields hmw.inj defs.flatten []
    (fun pf hp => (hflat pf hp).1) (fun x h => by cases h) List.Pairwise.nil
  refine ⟨fun pf hp => (hflat pf (hsub pf hp)).1, fun pf hp => (hflat pf (hsub pf hp)).2, hsorted, ?_, ?_⟩
  · -- struct indices are positions of the layout, which has fewer than 256
    have hlay := hmw.layLen
    have hlt : ∀ x ∈ unionFields defs, x.sindex < pm.layout.length := by
      intro x hx
      obtain ⟨k, hk, _⟩ := (hmw.fieldFacts x (hflat x (hsub x hx)).1).slot
      exact (List.getElem?_eq_some_iff.mp hk).1
    have := pairwise_length_le (unionFields defs) hsorted 0 pm.layout.length (Nat.zero_le _) (fun _ _ => Nat.zero_le _) hlt
    omega
  · intro m hm i hi hv
    obtain ⟨l, hl, hml⟩ := mapM_some_image h hm
    obtain ⟨pf, hpf, hpi⟩ := (encodeMesgDef_spec hml).2 i hi hv
    have hpflat : pf ∈ defs.flatten := List.mem_flatten.mpr ⟨l, hl, hpf⟩
    obtain ⟨y, hy, hyn⟩ := foldl_insertField_has defs.flatten [] pf hpflat
    exact ⟨y, hy, hpi ▸ (hmw.inj y (hflat y (hsub y hy)).1 pf (hflat pf hpflat).1).mp hyn⟩

theorem unionFields_single {pm : PMsg} (hmw : MsgFacts pm) {m : Msg} {fs : List PField}
    (h : encodeMesgDef pm m = some fs) : unionFields [fs] = fs := by
  unfold unionFields
  rw [List.flatten_singleton, foldl_insertField_sorted_eq pm.fields hmw.inj fs []
    (encodeMesgDef_mem h) (fun x hx => by cases hx) (by simpa using encodeMesgDef_sorted h)]
  rfl

theorem groupRecords_ok {arch : Endian} {pm : PMsg} {fs : List PField} {ms : List Msg} {b : Bytes}
    (h : concatE (ms.map fun m => mesgBytes arch pm m fs) = .ok b) :
    ∃ partss : List (List Bytes), b = serialize (partss.map fun parts => Item.data 0 parts []) ∧
      All2 (fun parts m => fs.map (fieldWrite arch pm m) = parts.map .ok) partss ms := by
  induction ms generalizing b with
  | nil => cases h; exact ⟨[], rfl, .nil⟩
  | cons m ms ih =>
    obtain ⟨a, br, ha, hr, rfl⟩ := concatE_cons_ok h
    simp only [mesgBytes_eq] at ha
    cases hm : concatE (fs.map (fieldWrite arch pm m)) with
    | error e => rw [hm] at ha; cases ha
    | ok body =>
      rw [hm] at ha
      cases ha
      obtain ⟨partss, hb, hall⟩ := ih hr
      obtain ⟨parts, hp1, hp2⟩ := concatE_ok hm
      exact ⟨parts :: partss, by rw [hb, hp2]; simp [serialize, serializeItem, u8], .cons hp1 hall⟩

/-- what `encodeGroup` checks before it writes anything -/
structure GroupPlan (P : Profile) (ms : List Msg) (n : Nat) (pm : PMsg) (defs : List (List PField)) : Prop where
  msg : P.msg? n = some pm
  hasCtor : pm.hasCtor = true
  hasType : pm.hasType = true
  lens : ∀ m ∈ ms, m.vals.length = pm.invalid.length
  defs : ms.mapM (encodeMesgDef pm) = some defs

/-- `encodeGroup` in two steps: it panics unless the plan holds, and then writes the union definition
    and one record per member -/
theorem encodeGroup_plan (P : Profile) (arch : Endian) (m0 : Msg) (rest : List Msg) :
    (encodeGroup P arch (m0 :: rest) = .error .panic ∧ ¬ ∃ pm defs, GroupPlan P (m0 :: rest) m0.num pm defs) ∨
    ∃ pm defs, GroupPlan P (m0 :: rest) m0.num pm defs ∧
      encodeGroup P arch (m0 :: rest) =
        (concatE ((m0 :: rest).map fun m => mesgBytes arch pm m (unionFields defs))).map
          (defBytes arch m0.num (unionFields defs) ++ ·) := by
  unfold encodeGroup
  dsimp only
  cases hpm : P.msg? m0.num with
  | none => exact Or.inl ⟨rfl, fun ⟨_, _, hp⟩ => nomatch hpm.symm.trans hp.msg⟩
  | some pm =>
    dsimp only
    split
    · rename_i hcond
      refine Or.inl ⟨rfl, fun ⟨pm', _, hp⟩ => ?_⟩
      cases hpm.symm.trans hp.msg
      simp only [hp.hasCtor, hp.hasType, Bool.and_self, Bool.not_true, Bool.false_eq_true, List.any_eq_true,
        decide_eq_true_eq, false_or] at hcond
      obtain ⟨m, hm, hne⟩ := hcond
      exact absurd (hp.lens m hm) hne
    · rename_i hcond
      -- the guard negated is the plan: constructor, type, and every member's length
      simp only [Bool.not_eq_true', Bool.and_eq_false_iff, List.any_eq_true, decide_eq_true_eq, not_or, not_exists,
        not_and, Decidable.not_not, Bool.not_eq_false] at hcond
      cases hdefs : (m0 :: rest).mapM (encodeMesgDef pm) with
      | none => exact Or.inl ⟨rfl, fun ⟨pm', _, hp⟩ => by cases hpm.symm.trans hp.msg; cases hdefs.symm.trans hp.defs⟩
      | some defs =>
        refine Or.inr ⟨pm, defs, ⟨hpm, hcond.1.1, hcond.1.2, fun m hm => hcond.2 m hm, hdefs⟩, ?_⟩
        unfold unionFields
        dsimp only
        cases concatE ((m0 :: rest).map fun m => mesgBytes arch pm m (defs.flatten.foldl (fun acc pf => insertField pf acc) [])) <;> rfl

theorem encodeGroup_ok {P : Profile} {arch : Endian} {m0 : Msg} {rest : List Msg} {bs : Bytes}
    (h : encodeGroup P arch (m0 :: rest) = .ok bs) :
    ∃ pm defs partss, GroupPlan P (m0 :: rest) m0.num pm defs ∧
      All2 (fun parts m => (unionFields defs).map (fieldWrite arch pm m) = parts.map .ok) partss (m0 :: rest) ∧
      bs = serialize (blockItems (defOf arch m0.num (unionFields defs)) partss) := by
  rcases encodeGroup_plan P arch m0 rest with ⟨hp, _⟩ | ⟨pm, defs, hplan, heq⟩
  · rw [hp] at h; cases h
  · rw [heq] at h
    cases hb : concatE ((m0 :: rest).map fun m => mesgBytes arch pm m (unionFields defs)) with
    | error e => rw [hb] at h; cases h
    | ok b =>
      rw [hb] at h
      cases h
      obtain ⟨partss, hb, hall⟩ := groupRecords_ok hb
      refine ⟨pm, defs, partss, hplan, hall, ?_⟩
      rw [defBytes_eq, hb]
      simp [serialize, blockItems]

/-- `ProfileWF` is needed: `encodeGroup` inserts the message's own definition field by field into
    the union, and that rebuilds a list only if it is in struct order without duplicates -/
theorem encodeOne_eq_group (P : Profile) (hwf : ProfileWF P = true) (arch : Endian) (m : Msg) :
    encodeOne P arch m = encodeGroup P arch [m] := by
  unfold encodeOne encodeGroup
  dsimp only
  cases hpm : P.msg? m.num with
  | none => rfl
  | some pm =>
    dsimp only
    by_cases hc : (!(pm.hasCtor && pm.hasType)) = true ∨ m.vals.length ≠ pm.invalid.length
    · rw [if_pos hc, if_pos (by simpa using hc)]
    · rw [if_neg hc, if_neg (by simpa using hc), List.mapM_cons, List.mapM_nil]
      cases hd : encodeMesgDef pm m with
      | none => rfl
      | some fs =>
        have := unionFields_single (msg?_facts hwf hpm) hd
        unfold unionFields at this
        simp only [Option.pure_def, Option.bind_eq_bind, Option.bind_some, this, List.map_cons, List.map_nil]
        cases mesgBytes arch pm m fs <;> simp [concatE]

theorem encodeBody_eq_groups (P : Profile) (hwf : ProfileWF P = true) (arch : Endian) (f : FileSt) (c : Container) :
    encodeBody P arch f c = concatE (([f.fileId] :: restGroups c f).map (encodeGroup P arch)) := by
  unfold encodeBody restGroups
  simp only [List.cons_append, List.nil_append, List.map_cons, List.map_map]
  refine congrArg concatE (List.cons_eq_cons.mpr ⟨encodeOne_eq_group P hwf arch _,
    List.cons_eq_cons.mpr ⟨?_, List.cons_eq_cons.mpr ⟨?_, List.map_congr_left ?_⟩⟩⟩)
  · cases f.creator with
    | none => rfl
    | some m => exact encodeOne_eq_group P hwf arch m
  · cases f.tscorr with
    | none => rfl
    | some m => exact encodeOne_eq_group P hwf arch m
  · rintro ⟨cs, ms⟩ _
    simp only [Function.comp, slotMsgs]
    split
    · rfl
    · cases ms with
      | nil => rfl
      | cons m _ => exact encodeOne_eq_group P hwf arch m

theorem encodeBody_ok_fileId {P : Profile} (hwf : ProfileWF P = true) {arch : Endian} {f : FileSt} {c : Container} {body : Bytes}
    (h : encodeBody P arch f c = .ok body) :
    ∃ b0 br, encodeGroup P arch [f.fileId] = .ok b0 ∧
      concatE ((restGroups c f).map (encodeGroup P arch)) = .ok br ∧ body = b0 ++ br := by
  rw [encodeBody_eq_groups P hwf] at h
  exact concatE_cons_ok h

/-- `bs` is the serialisation of blocks satisfying `Qb` that carry `msgs` -/
def BlocksOf (Qb : MB → Prop) (msgs : List Msg) (bs : Bytes) : Prop :=
  ∃ blocks : List MB, bs = serialize (blocks.flatMap fun b => blockItems b.d b.partss) ∧
    (∀ b ∈ blocks, Qb b) ∧ blocks.flatMap (·.ms) = msgs

theorem BlocksOf.nil {Qb : MB → Prop} : BlocksOf Qb [] [] := ⟨[], rfl, (fun _ h => by cases h), rfl⟩

theorem BlocksOf.single {Qb : MB → Prop} (b : MB) (h : Qb b) : BlocksOf Qb b.ms (serialize (blockItems b.d b.partss)) :=
  ⟨[b], by simp, fun x hx => by rw [List.mem_singleton.mp hx]; exact h, by simp⟩

theorem BlocksOf.append {Qb : MB → Prop} {x y : List Msg} {a b : Bytes} (ha : BlocksOf Qb x a) (hb : BlocksOf Qb y b) :
    BlocksOf Qb (x ++ y) (a ++ b) := by
  obtain ⟨b1, h1, g1, m1⟩ := ha
  obtain ⟨b2, h2, g2, m2⟩ := hb
  refine ⟨b1 ++ b2, by rw [List.flatMap_append, serialize_append, h1, h2], fun bl hbl => ?_,
    by rw [List.flatMap_append, m1, m2]⟩
  rcases List.mem_append.mp hbl with h | h
  · exact g1 bl h
  · exact g2 bl h

theorem groups_blocksOf {P : Profile} {arch : Endian} {Qb : MB → Prop} {g : List Msg → List Msg} {gs : List (List Msg)}
    (hl : ∀ ms ∈ gs, ∀ bs, encodeGroup P arch ms = .ok bs → BlocksOf Qb (g ms) bs) {body : Bytes}
    (h : concatE (gs.map (encodeGroup P arch)) = .ok body) : BlocksOf Qb (gs.flatMap g) body := by
  induction gs generalizing body with
  | nil => cases h; exact .nil
  | cons x xs ih =>
    obtain ⟨b, br, hx, hr, rfl⟩ := concatE_cons_ok h
    rw [List.flatMap_cons]
    exact (hl x (List.mem_cons_self ..) b hx).append (ih (fun y hy => hl y (List.mem_cons_of_mem _ hy)) hr)

theorem encodeGroup_nil_ne {P : Profile} {arch : Endian} {e : EncErr} : encodeGroup P arch [] ≠ .error e := nofun

/-- `hplan` is asked only for `e` the panic: the other failures of a group come from a field write -/
theorem encodeGroup_ne_error {P : Profile} (hwf : ProfileWF P = true) {arch : Endian} {m0 : Msg} {rest : List Msg} {e : EncErr}
    (hplan : e = .panic → ∃ pm defs, GroupPlan P (m0 :: rest) m0.num pm defs)
    (hw : ∀ pm, P.msg? m0.num = some pm → ∀ pf ∈ pm.fields, (∃ m' ∈ m0 :: rest, validIn pm m' pf) →
      ∀ m ∈ m0 :: rest, fieldWrite arch pm m pf ≠ .error e) :
    encodeGroup P arch (m0 :: rest) ≠ .error e := by
  intro h
  rcases encodeGroup_plan P arch m0 rest with ⟨hp, hs⟩ | ⟨pm, defs, ⟨hpm, _, _, _, hdefs⟩, heq⟩
  · rw [hp] at h
    cases h
    exact hs (hplan rfl)
  · rw [heq] at h
    cases hb : concatE ((m0 :: rest).map fun m => mesgBytes arch pm m (unionFields defs)) with
    | ok b => rw [hb] at h; cases h
    | error e' =>
      rw [hb] at h
      cases h
      obtain ⟨m, hm, hmb⟩ := List.mem_map.mp (concatE_error hb)
      obtain ⟨pf, hpf, hwr⟩ := mesgBytes_error hmb
      have hu := unionFields_spec (msg?_facts hwf hpm) hdefs
      exact hw pm hpm pf (hu.mem pf hpf) (hu.valid pf hpf) m hm hwr

theorem encodeBody_ne_error {P : Profile} (hwf : ProfileWF P = true) {arch : Endian} {f : FileSt} {c : Container} {e : EncErr}
    (h : ∀ g ∈ [f.fileId] :: restGroups c f, encodeGroup P arch g ≠ .error e) : encodeBody P arch f c ≠ .error e := by
  intro he
  rw [encodeBody_eq_groups P hwf] at he
  obtain ⟨g, hg, hge⟩ := List.mem_map.mp (concatE_error he)
  exact h g hg hge

theorem All2.fieldsFit {arch : Endian} {pm : PMsg} {fs : List PField} {partss : List (List Bytes)} {ms : List Msg}
    (hfw : ∀ pf ∈ fs, FieldFacts pm pf)
    (h : All2 (fun parts m => fs.map (fieldWrite arch pm m) = parts.map .ok) partss ms) :
    ∀ parts ∈ partss, FieldsFit (fs.map fdOf) parts := by
  induction h with
  | nil => intro _ h; cases h
  | @cons parts m _ _ hp _ ih =>
    intro p hp'
    cases hp' with
    | head => exact fieldsFit_of_writes arch pm m fs parts hfw hp
    | tail _ h => exact ih p h

theorem defOf_wf {P : Profile} {arch : Endian} {g : Nat} {pm : PMsg} (hmw : MsgFacts pm) (hpm : P.msg? g = some pm)
    {fs : List PField} (hmem : ∀ pf ∈ fs, pf ∈ pm.fields) (hsmall : fs.length < 256) : DefnWF (defOf arch g fs) false := by
  have hnum := (Profile.msg?_mem hpm).2 ▸ hmw.num
  refine ⟨Nat.zero_lt_succ _, Nat.lt_succ_of_lt hnum, ?_, ?_, (fun h => by cases h), (fun h => by cases h)⟩
  · show (fs.map fdOf).length < 256
    rw [List.length_map]; exact hsmall
  · intro f hf
    obtain ⟨pf, hpf, rfl⟩ := List.mem_map.mp hf
    exact ⟨Nat.lt_succ_of_lt (hmw.fieldFacts pf (hmem pf hpf)).num, szOf_lt pf, tcBase_lt _⟩

/-- a block as `encodeGroup` writes it: the definition of lookup entries `fs` of the message type, records that fit -/
structure WrittenBlock (P : Profile) (arch : Endian) (n : Nat) (pm : PMsg) (fs : List PField)
    (partss : List (List Bytes)) : Prop where
  msg : P.msg? n = some pm
  mem : ∀ pf ∈ fs, pf ∈ pm.fields
  wf : DefnWF (defOf arch n fs) false
  fits : ∀ parts ∈ partss, FieldsFit (fs.map fdOf) parts

theorem GroupPlan.written {P : Profile} (hwf : ProfileWF P = true) {arch : Endian} {ms : List Msg} {n : Nat} {pm : PMsg}
    {defs : List (List PField)} (hp : GroupPlan P ms n pm defs) {partss : List (List Bytes)}
    (hall : All2 (fun parts m => (unionFields defs).map (fieldWrite arch pm m) = parts.map .ok) partss ms) :
    WrittenBlock P arch n pm (unionFields defs) partss :=
  have hmw := msg?_facts hwf hp.msg
  have hu := unionFields_spec hmw hp.defs
  ⟨hp.msg, hu.mem, defOf_wf hmw hp.msg hu.mem hu.small, hall.fieldsFit fun pf hpf => hmw.fieldFacts pf (hu.mem pf hpf)⟩

theorem encodeGroup_items {P : Profile} (hwf : ProfileWF P = true) {arch : Endian} {m0 : Msg} {rest : List Msg} {bs : Bytes}
    (h : encodeGroup P arch (m0 :: rest) = .ok bs) :
    ∃ pm fs partss, WrittenBlock P arch m0.num pm fs partss ∧
      bs = serialize (blockItems (defOf arch m0.num fs) partss) ∧ partss.length = rest.length + 1 := by
  obtain ⟨pm, defs, partss, hplan, hall, hbs⟩ := encodeGroup_ok h
  exact ⟨pm, unionFields defs, partss, hplan.written hwf hall, hbs, hall.length_eq⟩

theorem encodeOne_items {P : Profile} (hwf : ProfileWF P = true) {arch : Endian} {m : Msg} {bs : Bytes}
    (h : encodeOne P arch m = .ok bs) :
    ∃ (fs : List PField) (parts : List Bytes),
      bs = serialize [.defn (defOf arch m.num fs) false, .data 0 parts []] ∧
      FieldsFit (defOf arch m.num fs).fields parts ∧ DefnWF (defOf arch m.num fs) false ∧
      ∃ pm, P.msg? m.num = some pm ∧ ∀ pf ∈ fs, pf ∈ pm.fields := by
  rw [encodeOne_eq_group P hwf] at h
  obtain ⟨pm, fs, partss, hw, hbs, hlen⟩ := encodeGroup_items hwf h
  obtain ⟨parts, rfl⟩ := List.length_eq_one_iff.mp hlen
  exact ⟨fs, parts, hbs, hw.fits parts (List.mem_cons_self ..), hw.wf, pm, hw.msg, hw.mem⟩

end Fit
