import FitModel.Crc
import FitModel.Basic
/-!
  XOR-linearity of the bit-serial register,
  the nibble decomposition behind `updateByte`, the register's two bytes `lo` / `hi` and the residue
  rule; for burst detection, that the zero-input step keeps a non-zero register non-zero and the
  leading-bit invariant.
-/
namespace Fit.Crc

theorem xor_cancel_left (p x : BitVec 16) : p ^^^ (p ^^^ x) = x := by
  rw [← BitVec.xor_assoc, BitVec.xor_self, BitVec.zero_xor]

/-- The register step is XOR-linear in (register, input bit). -/
theorem bitStep_xor (a b : BitVec 16) (x y : Bool) :
    bitStep (a ^^^ b) (x ^^ y) = bitStep a x ^^^ bitStep b y := by
  unfold bitStep
  simp only [BitVec.getLsbD_xor, BitVec.ushiftRight_xor_distrib]
  cases a.getLsbD 0 <;> cases b.getLsbD 0 <;> cases x <;> cases y <;>
    simp [BitVec.xor_assoc, BitVec.xor_comm poly]

theorem bitsStep_xor (a b : BitVec 16) (xs ys : List Bool) (h : xs.length = ys.length) :
    bitsStep (a ^^^ b) (List.zipWith (· ^^ ·) xs ys) = bitsStep a xs ^^^ bitsStep b ys := by
  induction xs generalizing ys a b with
  | nil =>
    cases ys with
    | nil => simp [bitsStep]
    | cons _ _ => simp at h
  | cons x xs ih =>
    cases ys with
    | nil => simp at h
    | cons y ys =>
      simp only [List.length_cons, Nat.add_right_cancel_iff] at h
      simp only [bitsStep, List.zipWith_cons_cons, List.foldl_cons, bitStep_xor]
      exact ih _ _ ys h

theorem bitsStep_append (c : BitVec 16) (xs ys : List Bool) :
    bitsStep c (xs ++ ys) = bitsStep (bitsStep c xs) ys := by
  simp [bitsStep, List.foldl_append]

/-- With a clear low bit and a zero input the step is a plain shift. -/
theorem bitStep_false_of_lsb (c : BitVec 16) (h : c.getLsbD 0 = false) :
    bitStep c false = c >>> 1 := by
  unfold bitStep
  rw [h]
  rfl

theorem bitStep_zero_false : bitStep 0#16 false = 0#16 := by decide

def nibBits (n : BitVec 16) : List Bool :=
  [n.getLsbD 0, n.getLsbD 1, n.getLsbD 2, n.getLsbD 3]

theorem shr4_and (c : BitVec 16) : (c >>> 4) &&& 0x0FFF#16 = c >>> 4 := by
  apply BitVec.eq_of_toNat_eq
  simp only [BitVec.toNat_and, BitVec.toNat_ushiftRight, BitVec.toNat_ofNat]
  have h := c.isLt
  rw [show (0xFFF % 2^16 : Nat) = 2^12 - 1 by decide, Nat.and_two_pow_sub_one_eq_mod,
    Nat.shiftRight_eq_div_pow]
  omega

/-- `n` zero-input steps of a register whose low `n` bits are clear: a plain shift by `n` -/
theorem bitsStep_zeros_shift (n : Nat) (c : BitVec 16) (h : ∀ i, i < n → c.getLsbD i = false) :
    bitsStep c (List.replicate n false) = c >>> n := by
  induction n generalizing c with
  | zero => rfl
  | succ n ih =>
    rw [List.replicate_succ, bitsStep, List.foldl_cons, bitStep_false_of_lsb c (h 0 (Nat.zero_lt_succ n))]
    refine (ih _ fun i hi => ?_).trans (by rw [← BitVec.shiftRight_add, Nat.add_comm])
    rw [BitVec.getLsbD_ushiftRight]
    exact h _ (by omega)

theorem bitsStep_zero_replicate (n : Nat) : bitsStep 0#16 (List.replicate n false) = 0#16 :=
  (bitsStep_zeros_shift n 0#16 fun _ _ => BitVec.getLsbD_zero).trans BitVec.zero_ushiftRight

theorem bitsStep_highPart (c : BitVec 16) :
    bitsStep (c &&& 0xFFF0#16) (List.replicate 4 false) = (c >>> 4) &&& 0x0FFF#16 := by
  refine (bitsStep_zeros_shift 4 _ fun i hi => ?_).trans ?_
  · have : i = 0 ∨ i = 1 ∨ i = 2 ∨ i = 3 := by omega
    rcases this with rfl | rfl | rfl | rfl <;> simp
  · rw [BitVec.ushiftRight_and_distrib, show (0xFFF0#16 >>> 4) = 0x0FFF#16 by decide]

theorem and_xor_and_not {w} (c m : BitVec w) : (c &&& m) ^^^ (c &&& ~~~m) = c := by
  ext i hi
  simp only [BitVec.getElem_xor, BitVec.getElem_and, BitVec.getElem_not]
  cases c[i] <;> cases m[i] <;> rfl

theorem split_nibble (c : BitVec 16) : c = (c &&& 0xFFF0#16) ^^^ (c &&& 0x000F#16) :=
  (and_xor_and_not c 0xFFF0#16).symm

theorem and_F_toNat (c : BitVec 16) : (c &&& 0x000F#16).toNat = c.toNat % 16 := by
  rw [BitVec.toNat_and, BitVec.toNat_ofNat, show (0xF % 2 ^ 16 : Nat) = 2 ^ 4 - 1 by decide,
    Nat.and_two_pow_sub_one_eq_mod]

theorem and_F_eq (c : BitVec 16) : c &&& 0x000F#16 = (c.truncate 4).zeroExtend 16 := by
  apply BitVec.eq_of_toNat_eq
  rw [and_F_toNat]
  simp only [BitVec.truncate_eq_setWidth, BitVec.toNat_setWidth]
  omega

/-- the table index only looks at the low nibble -/
theorem tab_congr {x y : BitVec 16} (h : x.toNat % 16 = y.toNat % 16) : tab x = tab y := by
  unfold tab
  rw [and_F_toNat, and_F_toNat, h]

theorem tab_mask (c : BitVec 16) : tab (c &&& 0x000F#16) = tab c :=
  tab_congr (by rw [and_F_toNat, Nat.mod_mod])

theorem nibBits_mask (c : BitVec 16) : nibBits (c &&& 0x000F#16) = nibBits c := by
  simp [nibBits]

/-- Here, and in `bitsStep_zero_nibBits`, the 16 constants of `table` meet the register: one kernel
    evaluation per nibble value. -/
theorem bitsStep_lowNibble (c : BitVec 16) : bitsStep (c &&& 0x000F#16) (List.replicate 4 false) = tab c := by
  have all : ∀ n : BitVec 4, bitsStep (n.zeroExtend 16) (List.replicate 4 false) = tab (n.zeroExtend 16) := by decide
  rw [← tab_mask, and_F_eq]; exact all _

theorem bitsStep_zero_nibBits (n : BitVec 16) : bitsStep 0#16 (nibBits n) = tab n := by
  have all : ∀ n : BitVec 4, bitsStep 0#16 (nibBits (n.zeroExtend 16)) = tab (n.zeroExtend 16) := by decide
  rw [← tab_mask, ← nibBits_mask, and_F_eq]; exact all _

/-- Four register steps fed with the low nibble of `n` = one table step of the Go code.  Linearity
    twice: the register is high part ⊕ low nibble ⊕ 0 and the input 0000 ⊕ 0000 ⊕ `n`; the high part
    run on zeros is a shift, the low nibble run on zeros and the zero register run on `n` are table
    entries. -/
theorem bitsStep_nibBits (c n : BitVec 16) :
    bitsStep c (nibBits n) = ((c >>> 4) &&& 0x0FFF#16) ^^^ tab c ^^^ tab n := by
  have hz : List.zipWith (· ^^ ·) (List.replicate 4 false) (nibBits n) = nibBits n := by simp [List.replicate, nibBits]
  have h1 := bitsStep_xor (c &&& 0xFFF0#16) (c &&& 0x000F#16) (List.replicate 4 false) (nibBits n) rfl
  -- `^^^ 0#16`: `bitsStep_xor` wants the register as a XOR
  have h2 := bitsStep_xor (c &&& 0x000F#16) 0#16 (List.replicate 4 false) (nibBits n) rfl
  rw [hz, ← split_nibble] at h1
  rw [hz, BitVec.xor_zero] at h2
  rw [h1, h2, bitsStep_highPart, bitsStep_lowNibble, bitsStep_zero_nibBits, BitVec.xor_assoc]

theorem byteBits_split (b : BitVec 8) :
    byteBits b = nibBits (b.zeroExtend 16) ++ nibBits ((b >>> 4).zeroExtend 16) := by
  simp [byteBits, nibBits]

theorem updateByte_eq_specByte (c : BitVec 16) (b : BitVec 8) :
    updateByte c b = specByte c b := by
  unfold specByte updateByte
  rw [byteBits_split, bitsStep_append, bitsStep_nibBits, bitsStep_nibBits]

theorem update_eq_specUpdate (c : BitVec 16) (d : List UInt8) : update c d = specUpdate c d := by
  simp only [update, specUpdate, updateByte_eq_specByte]

theorem update_append (c : BitVec 16) (xs ys : List UInt8) :
    update c (xs ++ ys) = update (update c xs) ys := by
  simp [update, List.foldl_append]

theorem lo_toNat (c : BitVec 16) : (lo c).toNat = c.toNat % 256 := by
  simp [lo, UInt8.toNat, BitVec.toNat_setWidth]

theorem hi_toNat (c : BitVec 16) : (hi c).toNat = c.toNat / 256 % 256 := by
  simp [hi, UInt8.toNat, BitVec.toNat_setWidth, BitVec.toNat_ushiftRight, Nat.shiftRight_eq_div_pow]

theorem tab_xor_self (x : BitVec 16) : tab x ^^^ tab x = 0#16 := BitVec.xor_self

/-- Feeding the low byte of the register shifts it right by eight. -/
theorem updateByte_lo (c : BitVec 16) : updateByte c (c.truncate 8) = c >>> 8 := by
  unfold updateByte
  have e1 : tab ((c.truncate 8).zeroExtend 16) = tab c := tab_congr (by simp)
  have e2 : tab (((c.truncate 8) >>> 4).zeroExtend 16) = tab (c >>> 4) :=
    tab_congr (by simp [Nat.shiftRight_eq_div_pow]; omega)
  have k : ∀ x t : BitVec 16, x ^^^ t ^^^ t = x := fun x t => by
    rw [BitVec.xor_assoc, BitVec.xor_self, BitVec.xor_zero]
  simp only [e1, e2, shr4_and, k]
  rw [← BitVec.shiftRight_add]

/-- appending the current sum, low byte first, drives the register to zero from any state -/
theorem residue_from (c0 : BitVec 16) (d : List UInt8) :
    update c0 (d ++ [lo (update c0 d), hi (update c0 d)]) = 0#16 := by
  rw [update_append]
  generalize update c0 d = c
  simp only [update, List.foldl_cons, List.foldl_nil, lo, hi]
  rw [updateByte_lo]
  rw [updateByte_lo, ← BitVec.shiftRight_add]
  apply BitVec.eq_of_toNat_eq
  simp only [BitVec.toNat_ushiftRight, BitVec.toNat_ofNat, Nat.shiftRight_eq_div_pow]
  have := c.isLt
  omega

/-- the shifted register has its top bit clear, the reflected polynomial has it set -/
theorem msb_shr_xor_poly (c : BitVec 16) : (c >>> 1 ^^^ poly).msb = true := by
  have h1 : (c >>> 1).msb = false := by
    rw [BitVec.msb_eq_decide]
    have := c.isLt
    simp [BitVec.toNat_ushiftRight, Nat.shiftRight_eq_div_pow]; omega
  rw [BitVec.msb_xor, h1, show poly.msb = true by decide]
  rfl

/-- the zero-input step never sends a non-zero register to zero (the reflected polynomial has its
    top bit set, the shifted register has not) -/
theorem bitStep_false_ne_zero (c : BitVec 16) (h : c ≠ 0#16) : bitStep c false ≠ 0#16 := by
  unfold bitStep
  simp only [Bool.bne_false]
  by_cases hl : c.getLsbD 0 = true
  · simp only [hl, ↓reduceIte]
    intro h0
    have := msb_shr_xor_poly c
    rw [h0] at this
    simp at this
  · simp only [hl, Bool.false_eq_true, ↓reduceIte]
    intro h0
    apply h
    -- c >>> 1 = 0 and lsb c = 0 give c = 0
    apply BitVec.eq_of_toNat_eq
    have h1 : (c >>> 1).toNat = 0 := by rw [h0]; rfl
    simp only [BitVec.toNat_ushiftRight, Nat.shiftRight_eq_div_pow] at h1
    have hl' : c.getLsbD 0 = false := by simpa using hl
    have h2 : c.toNat % 2 = 0 := by
      have hb : c.toNat.testBit 0 = false := hl'
      rw [Nat.testBit_zero] at hb
      simp at hb
      omega
    simp
    omega

theorem bitsStep_zeros_ne_zero (c : BitVec 16) (h : c ≠ 0#16) (n : Nat) :
    bitsStep c (List.replicate n false) ≠ 0#16 := by
  induction n generalizing c with
  | zero => simpa [bitsStep]
  | succ n ih =>
    simp only [List.replicate_succ, bitsStep, List.foldl_cons]
    exact ih _ (bitStep_false_ne_zero c h)

/-- leading-bit invariant: whatever bit is fed, the highest set bit goes down by at most one -/
theorem bitStep_lower (c : BitVec 16) (b : Bool) (k : Nat) (h : 2 ^ (k + 1) ≤ c.toNat) : 2 ^ k ≤ (bitStep c b).toNat := by
  have hk : k + 1 < 16 := (Nat.pow_lt_pow_iff_right (by decide)).1 (Nat.lt_of_le_of_lt h c.isLt)
  unfold bitStep
  have hsh : (c >>> 1).toNat = c.toNat / 2 := by
    simp [BitVec.toNat_ushiftRight, Nat.shiftRight_eq_div_pow]
  simp only
  by_cases hfb : (c.getLsbD 0 ^^ b) = true <;> simp only [hfb, ↓reduceIte, Bool.false_eq_true]
  · -- xor with poly sets bit 15
    have := msb_shr_xor_poly c
    rw [BitVec.msb_eq_decide] at this
    have h15 : 2 ^ (16 - 1) ≤ (c >>> 1 ^^^ poly).toNat := of_decide_eq_true this
    exact Nat.le_trans (Nat.pow_le_pow_right (by decide) (by omega)) h15
  · rw [hsh]
    rw [Nat.pow_succ] at h
    omega

theorem bitsStep_ne_zero_of_lower (c : BitVec 16) (bs : List Bool) (k : Nat) (hl : bs.length ≤ k)
    (h : 2 ^ k ≤ c.toNat) : bitsStep c bs ≠ 0#16 := by
  induction bs generalizing c k with
  | nil =>
    intro h0
    rw [show bitsStep c [] = c from rfl] at h0
    rw [h0] at h
    exact absurd h (Nat.not_le_of_gt (Nat.two_pow_pos k))
  | cons b bs ih =>
    cases k with
    | zero => cases hl
    | succ k => exact ih _ k (Nat.le_of_succ_le_succ hl) (bitStep_lower c b k h)

/-- a non-zero pattern of at most 16 bits fed into the zero register leaves it non-zero -/
theorem bitsStep_zero_ne_zero (d : List Bool) (hl : d.length ≤ 16) (hn : true ∈ d) :
    bitsStep 0#16 d ≠ 0#16 := by
  -- split at the first set bit
  induction d with
  | nil => simp at hn
  | cons b bs ih =>
    cases b with
    | false =>
      simp only [bitsStep, List.foldl_cons, bitStep_zero_false]
      simp only [List.mem_cons, Bool.true_eq_false, false_or] at hn
      exact ih (by simp at hl; omega) hn
    | true =>
      simp only [bitsStep, List.foldl_cons]
      have hp : bitStep 0#16 true = poly := by decide
      rw [hp]
      exact bitsStep_ne_zero_of_lower poly bs 15 (by simp at hl; omega) (by decide)

theorem xor_eq_zero_iff (a b : BitVec 16) : a ^^^ b = 0#16 ↔ a = b := BitVec.xor_eq_zero_iff

theorem zipWith_xor_self (xs : List Bool) : List.zipWith (· ^^ ·) xs xs = List.replicate xs.length false := by
  induction xs with
  | nil => rfl
  | cons x xs ih =>
    simp only [List.zipWith_cons_cons, Bool.xor_self, List.length_cons, List.replicate_succ, ih]

theorem mem_zipWith_xor_of_ne (w w' : List Bool) (hlen : w.length = w'.length) (hne : w ≠ w') :
    true ∈ List.zipWith (· ^^ ·) w w' := by
  induction w generalizing w' with
  | nil =>
    cases w' with
    | nil => exact absurd rfl hne
    | cons _ _ => simp at hlen
  | cons x xs ih =>
    cases w' with
    | nil => simp at hlen
    | cons y ys =>
      simp only [List.zipWith_cons_cons, List.mem_cons]
      by_cases hxy : x = y
      · right
        subst hxy
        apply ih ys (by simpa using hlen)
        intro h; apply hne; rw [h]
      · left
        cases x <;> cases y <;> simp_all

/-- **Burst detection at the register level.**  Two bit streams that agree outside a window of at
    most 16 bits and differ inside it drive the register — from any common starting state — to
    different values, whatever follows the window. -/
theorem burst_changes_register (c : BitVec 16) (pre w w' post : List Bool)
    (hlen : w.length = w'.length) (h16 : w.length ≤ 16) (hne : w ≠ w') :
    bitsStep c (pre ++ w ++ post) ≠ bitsStep c (pre ++ w' ++ post) := by
  rw [bitsStep_append, bitsStep_append, bitsStep_append, bitsStep_append]
  generalize bitsStep c pre = c1
  -- after the window the registers differ
  have hd : bitsStep c1 w ^^^ bitsStep c1 w' ≠ 0#16 := by
    have := bitsStep_xor c1 c1 w w' hlen
    rw [BitVec.xor_self] at this
    rw [← this]
    apply bitsStep_zero_ne_zero
    · simp [List.length_zipWith, hlen]; omega
    · exact mem_zipWith_xor_of_ne w w' hlen hne
  -- and zero-difference input keeps them different
  intro heq
  have hlin := bitsStep_xor (bitsStep c1 w) (bitsStep c1 w') post post rfl
  rw [zipWith_xor_self, heq, BitVec.xor_self] at hlin
  exact bitsStep_zeros_ne_zero _ hd _ hlin

theorem lo_hi_leNat (c : BitVec 16) : leNat [lo c, hi c] = c.toNat := by
  simp only [leNat, lo_toNat, hi_toNat]
  have := c.isLt
  omega

theorem update_lo_hi (c : BitVec 16) : update c [lo c, hi c] = 0#16 := by
  have := residue_from c []
  simpa [update] using this

theorem natLE2_lo_hi (c : BitVec 16) : natLE 2 c.toNat = [lo c, hi c] := by
  simp only [natLE]
  congr 1
  · apply UInt8.toNat_inj.mp; rw [lo_toNat]; simp
  · congr 1
    apply UInt8.toNat_inj.mp; rw [hi_toNat]; simp

end Fit.Crc
