import FitModel.WF
/-
  The base-type tables (`Base.size`, `Base.signed`, `Base.integer`) depend only on the 5-bit index of
  a base-type byte.  Each fact about them is one evaluation over the table indices, stated for a
  variable byte; `decompress` and `scOfBase` are described in terms of the tables.
-/
namespace Fit

/-- `decompress` restores the multi-byte flag that `Base.known` tests -/
theorem Base.decompress_eq (b : Nat) :
    Base.decompress b = Base.index b + (if Base.size b > 1 then 128 else 0) := by
  have key : ∀ c, c < 32 → Base.decompress c = c + (if Base.bsize.getD c 0 > 1 then 128 else 0) := by decide
  have := key (b % 32) (Nat.mod_lt _ (by decide))
  unfold Base.decompress at this ⊢
  rw [Nat.mod_mod] at this
  exact this

theorem Base.index_decompress (b : Nat) : Base.index (Base.decompress b) = Base.index b := by
  rw [Base.decompress_eq]
  unfold Base.index
  split <;> omega

theorem scOfBase_eq (b : Nat) (h : Base.index b < Base.nNames) :
    scOfBase b = some (if Base.index b = 7 then .s else if Base.isFloat b then .f (8 * Base.size b)
      else if Base.signed b then .i (8 * Base.size b) else .u (8 * Base.size b)) := by
  unfold scOfBase Base.isFloat Base.integer Base.signed Base.size
  generalize Base.index b = i at h ⊢
  revert i
  decide

theorem Base.known_index {b : Nat} (h : Base.known b = true) : Base.index b < Base.nNames := by
  unfold Base.known at h
  simp only [Bool.and_eq_true, decide_eq_true_eq] at h
  exact h.1

theorem Base.size_pos {b : Nat} (h : Base.known b = true) : 1 ≤ Base.size b := by
  have hi := Base.known_index h
  unfold Base.size
  generalize Base.index b = i at hi ⊢
  revert i
  decide

theorem tcBase_lt (t : Nat) : tcBase t < 256 := by
  rw [tcBase, Base.decompress_eq]
  have : Base.index (t % 256) < 32 := Nat.mod_lt _ (by decide)
  split <;> omega

/-- among the bytes `decompress` yields only `Base.string` has table index 7 -/
theorem tcBase_index_ne_7 {t : Nat} (h : tcBase t ≠ Base.string) : Base.index (tcBase t) ≠ 7 := by
  intro h7
  apply h
  have hs : Base.size (t % 256) = 1 := by
    rw [tcBase, Base.index_decompress] at h7
    simp [Base.size, h7, Base.bsize]
  rw [tcBase, Base.index_decompress] at h7
  rw [tcBase, Base.decompress_eq, h7, hs]
  rfl

theorem scOfBase_string : scOfBase Base.string = some .s := by decide

/-- the base types a well-formed profile field can have (no floats, no 64-bit types) -/
def listedBases : List Nat :=
  [Base.byte, Base.enum, Base.uint8, Base.uint8z, Base.sint8, Base.sint16, Base.uint16, Base.uint16z,
   Base.sint32, Base.uint32, Base.uint32z, Base.string]

/-- the Go element kind of an integer base type -/
def scOfInt (b : Nat) : Sc := if Base.signed b then .i (8 * Base.size b) else .u (8 * Base.size b)

structure IntBase (b : Nat) : Prop where
  sc : scOfBase b = some (scOfInt b)
  width : Base.size b = 1 ∨ Base.size b = 2 ∨ Base.size b = 4
  invalid : Base.invalidNat b < 2 ^ (8 * Base.size b - (if Base.signed b then 1 else 0))
  nofloat : Base.isFloat b = false

theorem listed_int {b : Nat} (hb : b ∈ listedBases) (hs : b ≠ Base.string) : IntBase b := by
  have key : ∀ b ∈ listedBases, b ≠ Base.string →
      scOfBase b = some (scOfInt b) ∧ (Base.size b = 1 ∨ Base.size b = 2 ∨ Base.size b = 4) ∧
      Base.invalidNat b < 2 ^ (8 * Base.size b - (if Base.signed b then 1 else 0)) ∧ Base.isFloat b = false := by
    decide
  obtain ⟨h1, h2, h3, h4⟩ := key b hb hs
  exact ⟨h1, h2, h3, h4⟩

end Fit
