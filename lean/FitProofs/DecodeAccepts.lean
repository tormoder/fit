import FitProofs.EncodeFile
import FitProofs.WholeFile
import FitProofs.NoPanicField
import FitProofs.MsgRoundtrip
/-
  "Decode accepts what Encode wrote": a group, when written, is one block — a definition the decoder
  accepts and records that fit it — and the record machine does not stop on such blocks.
-/
namespace Fit

theorem applyField_not_err {P : Profile} {dm : DefMsg} {known : Bool} {fd : FieldDef} {raw : Bytes}
    {m : Option Msg} {ts : TsRef} (hl : fd.btype ∈ listedBases) : applyField P dm known fd raw m ts ≠ .err := by
  have store : ∀ (msg : Msg) (i : Nat) (r : FieldRes × TsRef), r.1 ≠ .err → FieldRes.store msg i r ≠ .err := by
    intro msg i r hr
    obtain ⟨v, ts'⟩ := r
    cases v with
    | ok o => cases o <;> simp [FieldRes.store]
    | err => exact absurd rfl hr
    | panic => simp [FieldRes.store]
  -- every leaf of `applyField_eq` is `.ok`, `.panic` or the stored field value
  rw [applyField_eq]
  repeat' split
  all_goals first
    | exact store _ _ _ (fieldValue_ne_err (listed_parsed hl))
    | nofun

theorem stepFields_ok {P : Profile} (hwf : ProfileWF P = true) {dm : DefMsg} (hkn : P.known dm.global = true)
    {fds : List FieldDef} {raws : List Bytes} (hfit : FieldsFit fds raws)
    (hv : ∀ fd ∈ fds, validateFieldDef P dm.global fd = true) (hl : ∀ fd ∈ fds, fd.btype ∈ listedBases)
    (msg : Msg) (st : DecSt) :
    ∃ msg' st', stepFields P dm true fds raws (some msg) st = .ok (some msg') st' := by
  induction fds generalizing raws msg st with
  | nil =>
    cases raws with
    | nil => exact ⟨msg, st, rfl⟩
    | cons _ _ => cases hfit
  | cons fd fds ih =>
    cases raws with
    | nil => cases hfit
    | cons raw raws =>
      obtain ⟨hlen, hfit'⟩ := hfit
      rw [stepFields_cons]
      have hg := applyField_good P hwf dm true fd raw (some msg) (fieldSt P dm true fd raw st).ts hkn.symm
        (hv fd (List.mem_cons_self ..)) hlen (fun _ => rfl)
      cases hr : applyField P dm true fd raw (some msg) (fieldSt P dm true fd raw st).ts with
      | err => exact absurd hr (applyField_not_err (hl fd (List.mem_cons_self ..)))
      | panic => rw [hr] at hg; exact absurd hg (by simp [FieldsRes.Good])
      | ok m' ts' =>
        rw [hr] at hg
        obtain ⟨msg1, rfl⟩ := Option.isSome_iff_exists.mp (hg rfl)
        exact ih hfit' (fun fd h => hv fd (List.mem_cons_of_mem _ h)) (fun fd h => hl fd (List.mem_cons_of_mem _ h)) msg1 _

/-- from the constructor's message the field loop on `parts` yields `m`, whatever the decoder state -/
def Rebuilds (P : Profile) (d : DefMsg) (parts : List Bytes) (m : Msg) : Prop :=
  ∀ pm, P.msg? d.global = some pm → ∀ st : DecSt,
    ∃ st', stepFields P d true d.fields parts (some ⟨d.global, pm.invalid⟩) st = .ok (some m) st'

/-- a block the record machine accepts; `acc` has the literal form of the test in `stepItem` -/
structure GoodBlock (P : Profile) (d : DefMsg) (partss : List (List Bytes)) : Prop where
  localT : d.localT = 0
  dev : d.dev = []
  wf : DefnWF d false
  acc : ¬ (d.global = mesgNumInvalid ∨ (!(d.fields.all (validateFieldDef P d.global))) = true)
  listed : ∀ fd ∈ d.fields, fd.btype ∈ listedBases
  known : P.known d.global = true
  fit : ∀ parts ∈ partss, FieldsFit d.fields parts

/-- the part of the decoder state a data record needs for `file.add` to succeed: a File with its
    container attached, the accumulators, a definition table -/
structure Attached (st : DecSt) (f : FileSt) (g : Globals) : Prop where
  file : st.file = some f
  glob : st.glob = g
  attached : f.cidx.isSome = true
  defs : 0 < st.defs.length

-- local type 0: the only one `Encode` writes; `u8 0` is then the header byte of its data records
theorem stepItem_defn_good {P : Profile} {st : DecSt} {d : DefMsg} {partss : List (List Bytes)}
    (hb : GoodBlock P d partss) (hdl : 0 < st.defs.length) :
    ∃ st1, stepItem P st (.defn d false) = .ok st1 ∧ st1.file = st.file ∧ st1.glob = st.glob ∧
      0 < st1.defs.length ∧ st1.defs.getD 0 none = some d := by
  refine ⟨_, stepItem_defn.2 ⟨fun h => hb.acc (Or.inl h), fun h => hb.acc (Or.inr h), rfl⟩, rfl, rfl,
    by simp only [length_setAt]; exact hdl, defn_live hdl hb.localT hb.dev⟩

theorem stepItem_data_eq {P : Profile} (hwf : ProfileWF P = true) {st : DecSt} {d : DefMsg} {parts : List Bytes}
    (hlook : st.defs.getD 0 none = some d) (hdev : d.dev = []) (hkn : P.known d.global = true)
    {pm : PMsg} (hpm : P.msg? d.global = some pm) {msg' : Msg} {st2 : DecSt}
    (hsf : stepFields P d true d.fields parts (some ⟨d.global, pm.invalid⟩) (st.eat [u8 0]) = .ok (some msg') st2) :
    stepItem P st (.data 0 parts []) =
      match addMsg P (some msg') st2 with
      | none => .stop (panicOut st2)
      | some st' => .ok st' := by
  obtain ⟨pm', hpm', hctor⟩ := known_hasCtor hwf hkn
  cases hpm.symm.trans hpm'
  simp only [stepItem]
  rw [stepData_pre, dataPre_plain (hb := 0) (st := st.eat [u8 0]) hlook hkn hpm hctor]
  simp only [afterHead, hkn, hsf, hdev, stepDev]
  rfl

theorem stepItem_data_adds {P : Profile} (hwf : ProfileWF P = true) {st : DecSt} {d : DefMsg} {parts : List Bytes}
    {m : Msg} (hlook : st.defs.getD 0 none = some d) (hdev : d.dev = []) (hkn : P.known d.global = true)
    (hrb : Rebuilds P d parts m) {f : FileSt} (hf : st.file = some f) {f' : FileSt} {g' : Globals}
    (hadd : f.add P m st.glob = some (f', g')) :
    ∃ st', stepItem P st (.data 0 parts []) = .ok st' ∧ st'.file = some f' ∧ st'.glob = g' ∧ st'.defs = st.defs := by
  obtain ⟨pm, hpm, _⟩ := Profile.known_msg hkn
  obtain ⟨st2, hsf⟩ := hrb pm hpm (st.eat [u8 0])
  have k := (stepFields_spec hsf).reads.kept
  rw [stepItem_data_eq hwf hlook hdev hkn hpm hsf,
    addMsg_some.2 ⟨f, f', g', k.file.trans hf, k.glob ▸ hadd, rfl⟩]
  exact ⟨_, rfl, rfl, rfl, k.defs⟩

/-- one data record of a good block is accepted: it is `file.add` of the message the field loop
    built (it builds one: `applyField_good`) — of `m`, if the record rebuilds `m` (the loop is a function) -/
theorem stepItem_data_good {P : Profile} (hwf : ProfileWF P = true) {st : DecSt} {d : DefMsg} {partss : List (List Bytes)}
    (hb : GoodBlock P d partss) {parts : List Bytes} (hp : parts ∈ partss)
    (hlook : st.defs.getD 0 none = some d) {f : FileSt} {g : Globals} (hI : Attached st f g) :
    ∃ msg st' f' g', stepItem P st (.data 0 parts []) = .ok st' ∧ f.add P msg g = some (f', g') ∧ Attached st' f' g' ∧
      st'.defs = st.defs ∧ ∀ m, Rebuilds P d parts m → msg = m := by
  obtain ⟨pm, hpm, _⟩ := Profile.known_msg hb.known
  obtain ⟨msg, st2, hsf⟩ := stepFields_ok hwf hb.known (hb.fit parts hp)
    (forall_of_not_bnot_all fun h => hb.acc (Or.inr h)) hb.listed ⟨d.global, pm.invalid⟩ (st.eat [u8 0])
  have hstep := stepItem_data_eq hwf hlook hb.dev hb.known hpm hsf
  have k := (stepFields_spec hsf).reads.kept
  have e2 : st2.glob = st.glob := k.glob
  have e3 : st2.defs = st.defs := k.defs
  obtain ⟨hf, hg, hcx, hdl⟩ := hI
  obtain ⟨f', g', hadd, hci⟩ := add_succeeds P f msg st2.glob (Or.inl hcx)
  rw [hstep, addMsg_some.2 ⟨f, f', g', k.file.trans hf, hadd, rfl⟩]
  refine ⟨msg, _, f', g', rfl, by rw [← hg, ← e2]; exact hadd, ⟨rfl, rfl, hci ▸ hcx, e3 ▸ hdl⟩, e3, fun m hr => ?_⟩
  obtain ⟨st3, h3⟩ := hr pm hpm (st.eat [u8 0])
  cases hsf.symm.trans h3
  rfl

/-- the record machine accepts a good block: what it does to the File is `File.add` over some
    messages — over `ms`, if the block's records rebuild `ms` -/
theorem stepItems_block {P : Profile} (hwf : ProfileWF P = true) {st : DecSt} {d : DefMsg}
    {partss : List (List Bytes)} (hb : GoodBlock P d partss) {f : FileSt} {g : Globals} (hI : Attached st f g) :
    ∃ ms st' fg', stepItems P st (blockItems d partss) = .ok st' ∧ addAll P (f, g) ms = some fg' ∧
      Attached st' fg'.1 fg'.2 ∧ ∀ ms0, All2 (Rebuilds P d) partss ms0 → ms = ms0 := by
  obtain ⟨st1, hs1, hf1, hg1, hd1, hl1⟩ := stepItem_defn_good hb hI.defs
  have hI1 : Attached st1 f g := ⟨hf1.trans hI.file, hg1.trans hI.glob, hI.attached, hd1⟩
  simp only [blockItems, stepItems, hs1]
  clear hs1 hI hf1 hg1 hd1
  -- the data records, each under the same live definition
  have key : ∀ rest : List (List Bytes), (∀ p ∈ rest, p ∈ partss) → ∀ st1 f g, Attached st1 f g →
      st1.defs.getD 0 none = some d →
      ∃ ms st' fg', stepItems P st1 (rest.map fun parts => Item.data 0 parts []) = .ok st' ∧
        addAll P (f, g) ms = some fg' ∧ Attached st' fg'.1 fg'.2 ∧ ∀ ms0, All2 (Rebuilds P d) rest ms0 → ms = ms0 := by
    intro rest
    induction rest with
    | nil => exact fun _ st1 f g hI1 _ => ⟨[], st1, (f, g), rfl, rfl, hI1, fun _ h => by cases h; rfl⟩
    | cons parts rest ih =>
      intro hsub st1 f g hI1 hl1
      obtain ⟨msg, st2, f', g', hs2, hadd, hI2, hd2, hmsg⟩ :=
        stepItem_data_good hwf hb (hsub parts (List.mem_cons_self ..)) hl1 hI1
      obtain ⟨ms, st', fg', hs, hall, hI', hms⟩ := ih (fun p hp => hsub p (List.mem_cons_of_mem _ hp)) st2 f' g' hI2 (hd2 ▸ hl1)
      refine ⟨msg :: ms, st', fg', by simp only [List.map_cons, stepItems, hs2]; exact hs,
        by simp only [addAll, hadd]; exact hall, hI', fun ms0 h0 => ?_⟩
      cases h0 with
      | cons hr hrest => rw [hmsg _ hr, hms _ hrest]
  exact key partss (fun _ h => h) st1 f g hI1 hl1

theorem stepItems_blocks {P : Profile} (hwf : ProfileWF P = true) {blocks : List MB}
    (hg : ∀ b ∈ blocks, GoodBlock P b.d b.partss) {st : DecSt} {f : FileSt} {g : Globals} (hI : Attached st f g) :
    ∃ ms st' fg', stepItems P st (blocks.flatMap fun b => blockItems b.d b.partss) = .ok st' ∧
      addAll P (f, g) ms = some fg' ∧ Attached st' fg'.1 fg'.2 ∧
      ((∀ b ∈ blocks, All2 (Rebuilds P b.d) b.partss b.ms) → ms = blocks.flatMap (·.ms)) := by
  induction blocks generalizing st f g with
  | nil => exact ⟨[], st, (f, g), rfl, rfl, hI, fun _ => rfl⟩
  | cons b bs ih =>
    obtain ⟨ms1, st1, fg1, h1, a1, hI1, e1⟩ := stepItems_block hwf (hg b (List.mem_cons_self ..)) hI
    obtain ⟨ms2, st2, fg2, h2, a2, hI2, e2⟩ := ih (fun x hx => hg x (List.mem_cons_of_mem _ hx)) hI1
    refine ⟨ms1 ++ ms2, st2, fg2, by rw [List.flatMap_cons, stepItems_append, h1]; exact h2,
      by rw [addAll_append, a1]; exact a2, hI2, fun hrb => ?_⟩
    rw [List.flatMap_cons, e1 _ (hrb b (List.mem_cons_self ..)), e2 fun x hx => hrb x (List.mem_cons_of_mem _ hx)]

theorem WrittenBlock.good {P : Profile} {arch : Endian} {g : Nat} {pm : PMsg} {fs : List PField}
    {partss : List (List Bytes)} (hw : WrittenBlock P arch g pm fs partss) (hwf : ProfileWF P = true)
    (hkn : P.known g = true) : GoodBlock P (defOf arch g fs) partss := by
  refine ⟨rfl, rfl, hw.wf, defOf_accepted hwf hw.msg hw.mem, fun fd hfd => ?_, hkn, hw.fits⟩
  obtain ⟨pf, hpf, rfl⟩ := List.mem_map.mp hfd
  exact tcBase_listed ((msg?_facts hwf hw.msg).fieldFacts pf (hw.mem pf hpf))

theorem encodeGroup_goodBlock {P : Profile} (hwf : ProfileWF P = true) {arch : Endian} {ms : List Msg}
    (hkn : ∀ m ∈ ms, P.known m.num = true) {bs : Bytes} (h : encodeGroup P arch ms = .ok bs) :
    BlocksOf (fun b => GoodBlock P b.d b.partss) ms bs := by
  cases ms with
  | nil => cases h; exact .nil
  | cons m0 rest =>
    obtain ⟨pm, fs, partss, hw, rfl, _⟩ := encodeGroup_items hwf h
    exact .single ⟨defOf arch m0.num fs, partss, m0 :: rest⟩ (hw.good hwf (hkn m0 (List.mem_cons_self ..)))

theorem GoodBlock.fitsAny {P : Profile} {d : DefMsg} {partss : List (List Bytes)} (gb : GoodBlock P d partss) :
    FitsAny P (blockItems d partss) :=
  fun _ hd => block_fitsD hd gb.localT gb.dev gb.wf gb.acc gb.fit

/-- the run on the whole frame, stopped after the file_id block and `init`: `st2` holds the File with `m'`
    and the empty container `i`; from whatever the machine reaches from `st2` over the other blocks `Decode`
    finishes. `hinit` is over every `F` with `F.fileId = m'`: the File's header comes from the frame. -/
theorem decode_blocks (P : Profile) (hwf : ProfileWF P = true) (o : Opts) (k : HdrKind) (g : Globals) (proto profile : Nat)
    (hp : proto < 256) (hp2 : proto / 16 ≤ protoMajorMax)
    (d0 : DefMsg) (parts0 : List Bytes) (hnum : d0.global = mnFileId) (hgood0 : GoodBlock P d0 [parts0])
    (m' : Msg) (hm' : m'.num = mnFileId) (hrb : Rebuilds P d0 parts0 m')
    (i : Nat) (hinit : ∀ F : FileSt, F.fileId = m' → P.initAns (fileTypeOf F) = .container i)
    (blocks : List MB) (hgb : ∀ b ∈ blocks, GoodBlock P b.d b.partss)
    (hlen : (serialize (blockItems d0 [parts0] ++ blocks.flatMap fun b => blockItems b.d b.partss)).length < 4294967296)
    (tail : Bytes) (stop : Stop) :
    ∃ (H : Header) (st2 : DecSt) (C : Nat),
      ((H.size = headerSizeNoCRC ∨ H.size = headerSizeCRC) ∧ H.dtype = fitTag ∧ H.proto = proto) ∧
      st2.file = some { hdr := H, fileId := m', cidx := some i,
                        slots := List.replicate (P.containers.getD i default).slots.length [] } ∧
      st2.glob = g ∧ 0 < st2.defs.length ∧
      ∀ st', stepItems P st2 (blocks.flatMap fun b => blockItems b.d b.partss) = .ok st' →
        (decodeSpec P o .full g (frameBytesK k proto profile
            (serialize (blockItems d0 [parts0] ++ blocks.flatMap fun b => blockItems b.d b.partss)) ++ tail) stop).1 =
          finalize o (okOut { st' with crc := 0#16, file := st'.file.map fun x => { x with crc := C } }) := by
  have hkn := (ProfileWF_facts hwf).fileId
  have hfr := blocks_fitsAny fun b hb => (hgb b hb).fitsAny
  generalize (blocks.flatMap fun b => blockItems b.d b.partss) = rest at hlen hfr ⊢
  have e1 := hgood0.dev
  have e2 := hgood0.localT
  obtain ⟨l, ar, gl, fds, dev⟩ := d0
  simp only at e1 e2 hnum
  subst e1 e2 hnum
  let n := (serialize (blockItems ⟨0, ar, mnFileId, fds, []⟩ [parts0] ++ rest)).length
  -- the two file_id steps: the definition becomes live, the data record replaces the zero file_id by `m'`
  have hd0 : 0 < (recState0 P k g proto profile n).defs.length :=
    show 0 < (List.replicate 16 (none : Option DefMsg)).length by decide
  obtain ⟨st1, hs1, hf1, hg1, hd1, hl1⟩ := stepItem_defn_good hgood0 hd0
  have hadd : FileSt.add P { hdr := (afterHeader k g proto profile n).hdr, fileId := zeroFileId P } m' st1.glob =
      some ({ hdr := (afterHeader k g proto profile n).hdr, fileId := m' }, g) := by
    rw [hg1]
    exact add_iff.mpr (.fileId hm')
  obtain ⟨st2, hs2, hf2, hg2, hd2⟩ := stepItem_data_adds hwf hl1 rfl hkn hrb (hf1.trans rfl) hadd
  refine ⟨(afterHeader k g proto profile n).hdr,
    { st2 with file := some { hdr := (afterHeader k g proto profile n).hdr, fileId := m', cidx := some i,
                              slots := List.replicate (P.containers.getD i default).slots.length [] } },
    (Crc.checksum (frameHdr k proto profile n ++ serialize (blockItems ⟨0, ar, mnFileId, fds, []⟩ [parts0] ++ rest))).toNat,
    ⟨k.size_cases, rfl, rfl⟩, rfl, hg2, hd2 ▸ hd1, fun st' hst' => ?_⟩
  refine decode_frame_ok P o k g proto profile ⟨0, ar, mnFileId, fds, []⟩ false parts0 [] rest tail stop st' hp hp2
    hgood0.wf rfl hkn hlen (hgood0.fitsAny.append hfr _ (by simp)) ?_
  refine (runItems_cons_cons ?_ hs2 hf2 (init_ok_iff.mpr ⟨i, hinit _ rfl, rfl⟩)).trans hst'
  rw [afterHeader_eta, recStart_afterHeader]
  exact hs1

/-- `Decode` on what `Encode` wrote, up to `finalize`: the state it ends in holds `File.add` over the
    messages of the blocks, from the empty container with `m'` (what the file_id record rebuilds).
    `Qb`: what the caller knows of a block; `gm`: how a group's messages come back (`id`, `wireSlot P true`) -/
theorem decode_encoded (P : Profile) (hwf : ProfileWF P = true) {arch : Endian} {f f' : FileSt} {bs : Bytes}
    (h : encode P arch f = .ok bs f') (hs : f.hdr.size = headerSizeNoCRC ∨ f.hdr.size = headerSizeCRC)
    (ht : f.hdr.dtype = fitTag) (hp : f.hdr.proto < 256 ∧ f.hdr.proto / 16 ≤ protoMajorMax) (hsmall : bs.length < 4294967296)
    (hfn : f.fileId.num = mnFileId)
    {m' : Msg} (hm' : m'.num = mnFileId) (hty : ∀ F : FileSt, F.fileId = m' → fileTypeOf F = fileTypeOf f)
    (hfid : ∀ b0, encodeGroup P arch [f.fileId] = .ok b0 → ∃ fs parts0,
      b0 = serialize (blockItems (defOf arch f.fileId.num fs) [parts0]) ∧
      GoodBlock P (defOf arch f.fileId.num fs) [parts0] ∧ Rebuilds P (defOf arch f.fileId.num fs) parts0 m')
    {Qb : MB → Prop} {gm : List Msg → List Msg} (hQ : ∀ b, Qb b → GoodBlock P b.d b.partss)
    (hgr : ∀ c, ∀ ms ∈ restGroups c f, ∀ bs, encodeGroup P arch ms = .ok bs → BlocksOf Qb (gm ms) bs)
    (o : Opts) (g : Globals) (tail : Bytes) (stop : Stop) :
    ∃ (i : Nat) (H : Header) (C : Nat) (blocks : List MB) (ms : List Msg) (st' : DecSt) (fg' : FileSt × Globals),
      f.cidx = some i ∧ ((H.size = headerSizeNoCRC ∨ H.size = headerSizeCRC) ∧ H.dtype = fitTag ∧ H.proto = f.hdr.proto) ∧
      (∀ b ∈ blocks, Qb b) ∧ blocks.flatMap (·.ms) = (restGroups (P.containers.getD i default) f).flatMap gm ∧
      addAll P ({ hdr := H, fileId := m', cidx := some i,
                  slots := List.replicate (P.containers.getD i default).slots.length [] }, g) ms = some fg' ∧
      Attached st' fg'.1 fg'.2 ∧ ((∀ b ∈ blocks, All2 (Rebuilds P b.d) b.partss b.ms) → ms = blocks.flatMap (·.ms)) ∧
      (decodeSpec P o .full g (bs ++ tail) stop).1 =
        finalize o (okOut { st' with crc := 0#16, file := st'.file.map fun x => { x with crc := C } }) := by
  obtain ⟨i, body, hci, hia, hbody, hblen, rfl⟩ := encode_ok_frame h hs ht hsmall
  obtain ⟨b0, br, h0, hr, rfl⟩ := encodeBody_ok_fileId hwf hbody
  obtain ⟨fs, parts0, rfl, hgood0, hrb⟩ := hfid b0 h0
  obtain ⟨blocks, rfl, hgb, hms⟩ := groups_blocksOf (hgr _) hr
  rw [← serialize_append] at hblen ⊢
  obtain ⟨H, st2, C, hH, hf2, hg2, hd2, key⟩ := decode_blocks P hwf o (kindOfSize f.hdr.size) g f.hdr.proto f.hdr.profile
    hp.1 hp.2 _ parts0 hfn hgood0 m' hm' hrb i (fun F hF => by rw [hty F hF]; exact hia)
    blocks (fun b hb => hQ b (hgb b hb)) hblen tail stop
  obtain ⟨ms, st', fg', hst', hadd, hI, hms'⟩ := stepItems_blocks hwf (fun b hb => hQ b (hgb b hb)) ⟨hf2, hg2, rfl, hd2⟩
  exact ⟨i, H, C, blocks, ms, st', fg', hci, hH, hgb, hms, hadd, hI, hms', key st' hst'⟩

/-- what must hold of a File for the acceptance theorem: a 12- or 14-byte ".FIT" header, a file_id message
    whose fields round-trip (so that `init` attaches the container `Encode` checked), and only messages of
    known types -/
structure FileInDomain (P : Profile) (arch : Endian) (f : FileSt) : Prop where
  hdrSize : f.hdr.size = headerSizeNoCRC ∨ f.hdr.size = headerSizeCRC
  tag : f.hdr.dtype = fitTag
  proto : f.hdr.proto < 256 ∧ f.hdr.proto / 16 ≤ protoMajorMax
  fidNum : f.fileId.num = mnFileId
  fidKnown : P.known mnFileId = true
  fidRT : ∀ pm, P.msg? f.fileId.num = some pm →
    (∀ pf ∈ pm.fields, ∀ k v, pm.layout[pf.sindex]? = some k → f.fileId.vals[pf.sindex]? = some v →
      isInvalidVal pm pf.sindex v = false → ∀ fs, FieldRT P (defOf arch f.fileId.num fs) pf k v) ∧
    (∀ i v, f.fileId.vals[i]? = some v → isInvalidVal pm i v = true → pm.invalid[i]? = some v)
  creatorKnown : ∀ m, f.creator = some m → P.known m.num = true
  tscorrKnown : ∀ m, f.tscorr = some m → P.known m.num = true
  slotsKnown : ∀ ms ∈ f.slots, ∀ m ∈ ms, P.known m.num = true

theorem decode_accepts_encode (P : Profile) (hwf : ProfileWF P = true) (arch : Endian) (f f' : FileSt) (bs : Bytes)
    (h : encode P arch f = .ok bs f') (hdom : FileInDomain P arch f) (hsmall : bs.length < 4294967296)
    (o : Opts) (g : Globals) (tail : Bytes) (stop : Stop) :
    (decodeSpec P o .full g (bs ++ tail) stop).1.success := by
  obtain ⟨pm0, hpm0, _⟩ := Profile.known_msg hdom.fidKnown
  rw [← hdom.fidNum] at hpm0
  have hknf : P.known f.fileId.num = true := hdom.fidNum ▸ hdom.fidKnown
  obtain ⟨hrt, hinv⟩ := hdom.fidRT pm0 hpm0
  obtain ⟨_, _, _, _, _, _, _, _, _, _, _, _, _, _, key⟩ := decode_encoded P hwf h hdom.hdrSize hdom.tag hdom.proto hsmall
    hdom.fidNum hdom.fidNum (fun _ hF => fileTypeOf_congr hF)
    (fun b0 h0 => by
      obtain ⟨fs, parts, hbs, hmem, hfit, hsmall, hstep⟩ := message_roundtrip P hwf arch f.fileId b0 pm0 hpm0
        (Profile.known_eq hpm0 ▸ hknf) (encodeOne_eq_group P hwf arch _ ▸ h0) hrt hinv
      refine ⟨fs, parts, hbs, WrittenBlock.good ⟨hpm0, hmem, defOf_wf (msg?_facts hwf hpm0) hpm0 hmem hsmall,
        fun p hp => by rw [List.mem_singleton.mp hp]; exact hfit⟩ hwf hknf, fun pm' hpm' st => ?_⟩
      cases hpm0.symm.trans hpm'
      exact hstep st)
    (Qb := fun b => GoodBlock P b.d b.partss) (gm := id) (fun _ hb => hb)
    (fun _ ms hms bs hbs => encodeGroup_goodBlock hwf (fun m hm => by
      rcases restGroups_mem (List.mem_cons_of_mem _ hms) hm with (rfl | h | h) | ⟨s, hs, h⟩
      · exact hknf
      · exact hdom.creatorKnown m h
      · exact hdom.tscorrKnown m h
      · exact hdom.slotsKnown s hs m h) hbs) o g tail stop
  rw [key]
  exact finalize_okOut_success o _

end Fit
