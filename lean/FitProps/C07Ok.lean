import FitProps.C07Fix
import FitProofs.TypedEncode
/-!
  `Encode` does not *fail* on a File of the decidable round-trip domain (C06 `fileRTB`): no
  `writeField` of a domain value returns an error. With `encode_no_panic` (typed Files) this
  gives the second `Encode` of C07's fixpoint.
-/
namespace Fit
open Fit.Props.C06

/-- the empty string in a string field is written as zeros -/
theorem writeField_filler_ok (arch : Endian) (pm : PMsg) (pf : PField) (facts : FieldFacts pm pf) (k : SlotKind) (v : Val)
    (h : strFillerB pf k v = true) : ∃ b, writeField arch pf k v = .ok b := by
  obtain ⟨rfl, rfl, hk, ha, hb⟩ := strFillerB_iff.mp h
  have h0 : ¬ pf.length = 0 := by have := facts.len1; omega
  exact ⟨_, by rw [writeField_scalar ha, encodeScalar_string hk hb, encodeString_nil h0]⟩

theorem msgDomB_writes (arch : Endian) (pm : PMsg) (hmw : msgWF pm = true) (m : Msg) (w : PField → Bool)
    (h : msgDomB pm m w = true) :
    ∀ pf ∈ pm.fields, w pf = true → ∀ k v, pm.layout[pf.sindex]? = some k → m.vals[pf.sindex]? = some v →
      ∃ b, writeField arch pf k v = .ok b := by
  intro pf hp hw k v hk hv
  have facts := (msgWF_facts hmw).fieldFacts pf hp
  rcases (msgDomB_iff.mp h).1 pf hp hw k v hk hv with h1 | h1 | ⟨_, h1⟩
  · exact writeField_valRT_ok arch pm pf facts k v h1
  · exact writeField_arrRT_ok arch pf k v h1
  · exact writeField_filler_ok arch pm pf facts k v h1

theorem fieldWrite_ne_error {arch : Endian} {pm : PMsg} {m : Msg} {pf : PField}
    (h : ∀ k v, pm.layout[pf.sindex]? = some k → m.vals[pf.sindex]? = some v → ∃ b, writeField arch pf k v = .ok b) :
    fieldWrite arch pm m pf ≠ .error .error := by
  unfold fieldWrite
  split
  · rename_i k v hk hv
    obtain ⟨b, hb⟩ := h k v hk hv
    rw [hb]; simp
  · simp

/-- `w`: a selection of fields that contains every field valid in some member -/
theorem encodeGroup_no_error_of (P : Profile) (hwf : ProfileWF P = true) (arch : Endian) (m0 : Msg) (rest : List Msg)
    (w : PField → Bool)
    (hd : ∀ pm, P.msg? m0.num = some pm → (∀ m ∈ m0 :: rest, msgDomB pm m w = true) ∧
      ∀ pf, (∃ m' ∈ m0 :: rest, validIn pm m' pf) → w pf = true) :
    encodeGroup P arch (m0 :: rest) ≠ .error .error :=
  encodeGroup_ne_error hwf (fun h => by cases h) fun pm hpm pf hp hv m hm =>
    fieldWrite_ne_error (msgDomB_writes arch pm (msg?_wf hwf hpm) m w ((hd pm hpm).1 m hm) pf hp
      ((hd pm hpm).2 pf hv))

theorem encodeOne_no_error (P : Profile) (hwf : ProfileWF P = true) (arch : Endian) (m : Msg) (w : PField → Bool)
    (hd : ∀ pm, P.msg? m.num = some pm → msgDomB pm m w = true ∧ ∀ pf, validInB pm m pf = true → w pf = true) :
    encodeOne P arch m ≠ .error .error := by
  rw [encodeOne_eq_group P hwf]
  refine encodeGroup_no_error_of P hwf arch m [] w fun pm hpm => ⟨fun m' hm' => ?_, fun pf ⟨m', hm', hv⟩ => ?_⟩
  · rw [List.mem_singleton.mp hm']; exact (hd pm hpm).1
  · rw [List.mem_singleton.mp hm'] at hv
    exact (hd pm hpm).2 pf (validInB_iff.mpr hv)

theorem slotDomB_no_error {P : Profile} (hwf : ProfileWF P = true) {arch : Endian} {ms : List Msg}
    (h : slotDomB P ms = true) {m0 : Msg} {rest : List Msg} (hsub : ∀ m ∈ m0 :: rest, m ∈ ms) :
    encodeGroup P arch (m0 :: rest) ≠ .error .error := by
  cases ms with
  | nil => cases hsub m0 (List.mem_cons_self ..)
  | cons a as =>
    obtain ⟨_, hnum, pm, hpm, h3⟩ := slotDomB_iff.mp h
    refine encodeGroup_no_error_of P hwf arch m0 rest (onIn pm (a :: as)) fun pm' hpm' => ?_
    rw [hnum m0 (hsub m0 (List.mem_cons_self ..)), hpm] at hpm'
    cases hpm'
    exact ⟨fun m hm => h3 m (hsub m hm), fun pf ⟨m', hm', hv⟩ => onIn_iff.mpr ⟨m', hsub m' hm', hv⟩⟩

theorem encodeGroup_no_error (P : Profile) (hwf : ProfileWF P = true) (arch : Endian) (ms : List Msg)
    (h : slotDomB P ms = true) : encodeGroup P arch ms ≠ .error .error := by
  cases ms with
  | nil => exact encodeGroup_nil_ne
  | cons m0 rest => exact slotDomB_no_error hwf h fun _ h => h

theorem oneDomB_no_error {P : Profile} (hwf : ProfileWF P = true) {arch : Endian} {m : Msg} (h : oneDomB P m = true) :
    encodeGroup P arch [m] ≠ .error .error :=
  encodeGroup_no_error P hwf arch [m] (oneDomB_eq_slot P m ▸ h)

theorem encodeBody_no_error {P : Profile} (hwf : ProfileWF P = true) {arch : Endian} {f : FileSt} {c : Container}
    (hdom : fileRTB P f = true) : encodeBody P arch f c ≠ .error .error := by
  have h := fileRTB_iff.mp hdom
  refine encodeBody_ne_error hwf fun g hg => ?_
  rcases restGroups_cases hg with rfl | ⟨m, rfl, hm⟩ | ⟨z, hz, rfl⟩
  · exact encodeGroup_nil_ne
  · rcases hm with rfl | hm | hm
    · exact oneDomB_no_error hwf h.fid
    · exact oneDomB_no_error hwf (h.creator m hm)
    · exact oneDomB_no_error hwf (h.tscorr m hm)
  · cases hs : slotMsgs z with
    | nil => exact encodeGroup_nil_ne
    | cons m0 rest =>
      exact slotDomB_no_error hwf (h.slots z.2 (List.of_mem_zip hz).2) fun m hm => slotMsgs_sub (hs ▸ hm)

/-- on the round-trip domain `Encode` does not fail: if it returns no bytes it has panicked -/
theorem encode_no_error (P : Profile) (hwf : ProfileWF P = true) (arch : Endian) (f : FileSt)
    (hdom : fileRTB P f = true) (hinit : ∃ j, P.initAns (fileTypeOf f) = .container j) :
    (∀ bs f', encode P arch f ≠ .ok bs f') → encode P arch f = .panic := by
  intro hne
  obtain ⟨j, hj⟩ := hinit
  cases hci : f.cidx with
  | none => simp only [encode, hj, hci]
  | some i =>
    by_cases hij : i = j
    · subst hij
      cases he : encode P arch f with
      | ok bs f' => exact absurd he (hne bs f')
      | error => exact absurd ((encodeBody_of_fail hci hj).2 he) (encodeBody_no_error hwf hdom)
      | panic => rfl
    · simp only [encode, hj, hci, ne_eq, hij, not_false_eq_true, ↓reduceIte]

theorem second_trip_total (P : Profile) (hwf : ProfileWF P = true) (hcont : ∀ c ∈ P.containers, containerOK c = true)
    (hx : xokB P = true) (hfl : fidLayoutB P = true)
    (arch arch2 : Endian) (f f' : FileSt) (bs : Bytes)
    (h : encode P arch f = .ok bs f') (hdom : fileRTB P f = true) (hsmall : bs.length < 4294967296)
    (hsh : ∀ i, f.cidx = some i → FileShape (P.containers.getD i default) f)
    (hone : ∀ i, f.cidx = some i → ∀ z ∈ (P.containers.getD i default).slots.zip f.slots, z.1.many = false → z.2.length ≤ 1)
    (hnx : ∀ ms ∈ f.slots, ∀ m ∈ ms, expandSet.contains m.num = false)
    (o : Opts) (g : Globals) (tail : Bytes) (stop : Stop) :
    ∃ F1 : FileSt,
      (decodeSpec P o .full g (bs ++ tail) stop).1.success ∧
      (decodeSpec P o .full g (bs ++ tail) stop).1.st.file = some F1 ∧
      ∃ (bs2 : Bytes) (f2' : FileSt), encode P arch2 F1 = .ok bs2 f2' ∧
        (bs2.length < 4294967296 →
          ∀ (o2 : Opts) (g2 : Globals) (tail2 : Bytes) (stop2 : Stop),
            ∃ F2 : FileSt,
              (decodeSpec P o2 .full g2 (bs2 ++ tail2) stop2).1.success ∧
              (decodeSpec P o2 .full g2 (bs2 ++ tail2) stop2).1.st.file = some F2 ∧
              F2.fileId = F1.fileId ∧ F2.creator = F1.creator ∧ F2.tscorr = F1.tscorr ∧ F2.cidx = F1.cidx ∧
              F2.slots = F1.slots ∧
              (decodeSpec P o2 .full g2 (bs2 ++ tail2) stop2).1.st.glob = g2) := by
  obtain ⟨i, F1, hci, hsucc, hfile, _, e1, hd1⟩ := TripDom.trip P hwf hcont ⟨hdom, hsh, hone, hnx⟩ h hsmall o g tail stop
  refine ⟨F1, hsucc, hfile, ?_⟩
  have hci1 := e1.cidx.trans hci
  obtain ⟨t1, t2⟩ := decodeSpec_file_typed P hwf hx hfl o g _ stop hsucc F1 hfile
  cases he : encode P arch2 F1 with
  | ok bs2 f2' =>
    refine ⟨bs2, f2', rfl, fun hs2 o2 g2 tail2 stop2 => ?_⟩
    obtain ⟨F2, hsucc2, hfile2, e, hg2⟩ := hd1.second P hwf hcont hci1 e1 he hs2 o2 g2 tail2 stop2
    exact ⟨F2, hsucc2, hfile2, e.fileId, e.creator, e.tscorr, e.cidx, e.slots, hg2⟩
  | panic => exact absurd he (encode_no_panic P hwf arch2 F1 t1 t2)
  | error => exact absurd ((encodeBody_of_fail hci1 (t1.ctype i hci1)).2 he) (encodeBody_no_error hwf hd1.dom)

end Fit
