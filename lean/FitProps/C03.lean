import FitModel.Items
import FitModel.Gen.Profile
import FitProofs.ListLemmas
import FitProofs.ExpandEvent
import FitProofs.Routing
/-!
  C03 — messages are routed, in order, to the typed container of the file's type.
-/
namespace Fit.Props.C03
open Fit

def holds (c : Container) (m : Msg) : Bool := (slotFor c m.num).isSome

def expandOne (P : Profile) (m : Msg) (g : Globals) : Msg × Globals :=
  if expandSet.contains m.num then expand P m g else (m, g)

def expandAll (P : Profile) : Globals → List Msg → List Msg × Globals
  | g, [] => ([], g)
  | g, m :: ms =>
    let r := expandOne P m g
    let rest := expandAll P r.2 ms
    (r.1 :: rest.1, rest.2)

/-- what a slot holds after `stored` arrived, starting from `old` -/
def slotSpec (many : Bool) (old : List Msg) (stored : List Msg) : List Msg :=
  if many then old ++ stored
  else match stored.getLast? with
    | some m => [m]
    | none => old

theorem slotSpec_nil (many : Bool) (old : List Msg) : slotSpec many old [] = old := by
  unfold slotSpec; cases many <;> simp

theorem slotSpec_cons (many : Bool) (old : List Msg) (m : Msg) (ms : List Msg) :
    slotSpec many old (m :: ms) = slotSpec many (if many then old ++ [m] else [m]) ms := by
  unfold slotSpec
  cases many
  · simp only [Bool.false_eq_true, ↓reduceIte]
    cases ms with
    | nil => simp
    | cons x xs =>
      simp only [List.getLast?_cons_cons]
      cases hgl : (x :: xs).getLast? with
      | none => simp at hgl
      | some y => rfl
  · simp

theorem setU_num (m : Msg) (i n : Nat) : (m.setU i n).num = m.num := rfl

theorem expandOne_eq (P : Profile) (m : Msg) (g : Globals) : expandOne P m g = expandMsg P m g := rfl

theorem expandAll_eq (P : Profile) : ∀ (g : Globals) (ms : List Msg), expandAll P g ms = expandList P g ms
  | _, [] => rfl
  | g, m :: ms => by simp only [expandAll, expandList, expandOne_eq, expandAll_eq P]

def routeAll (P : Profile) (c : Container) (sl : List (List Msg)) (g : Globals) (ms : List Msg) :
    List (List Msg) × Globals :=
  ms.foldl (fun (acc : List (List Msg) × Globals) m => containerAdd P c acc.1 m acc.2) (sl, g)

/-- **Routing refines the container specification.**  Folding `containerAdd` over any message
    sequence leaves in slot `i` exactly the (expanded) messages whose type that slot holds, in
    stream order for slice slots, the last one for single slots; messages of types the container
    does not hold have no effect on any slot nor on the accumulators. -/
theorem route_spec (P : Profile) (c : Container) (ms : List Msg) (sl : List (List Msg)) (g : Globals)
    (hlen : sl.length = c.slots.length) :
    (routeAll P c sl g ms).2 = (expandAll P g (ms.filter (holds c))).2 ∧
    (routeAll P c sl g ms).1.length = c.slots.length ∧
    ∀ i, i < c.slots.length →
      (routeAll P c sl g ms).1.getD i [] = slotSpec (c.slots.getD i default).many (sl.getD i [])
        ((expandAll P g (ms.filter (holds c))).1.filter (fun m => slotFor c m.num == some i)) := by
  simp only [expandAll_eq]
  induction ms generalizing sl g with
  | nil =>
    simp only [routeAll, List.foldl_nil, List.filter_nil, expandList]
    refine ⟨trivial, hlen, fun i _ => ?_⟩
    simp [slotSpec_nil]
  | cons m ms ih =>
    simp only [routeAll, List.foldl_cons]
    simp only [routeAll] at ih
    cases hs : slotFor c m.num with
    | none =>
      have hh : holds c m = false := by simp [holds, hs]
      rw [containerAdd_none sl g hs]
      simp only [List.filter_cons, hh]
      exact ih sl g hlen
    | some j =>
      have hh : holds c m = true := by simp [holds, hs]
      have hj : j < c.slots.length := (slotFor_spec hs).1
      rw [containerAdd_some sl g hs]
      obtain ⟨h1, h2, h3⟩ := ih _ (expandMsg P m g).2 ((length_setAt ..).trans hlen)
      simp only [List.filter_cons, hh, ↓reduceIte, expandList]
      refine ⟨h1, h2, fun i hi => ?_⟩
      rw [h3 i hi]
      have hnum : slotFor c (expandMsg P m g).1.num = some j := by rw [expandMsg_num]; exact hs
      by_cases hij : j = i
      · subst hij
        rw [getD_setAt_self _ _ _ _ (by rw [hlen]; exact hj)]
        simp only [hnum, beq_self_eq_true, ↓reduceIte]
        rw [slotSpec_cons]
      · rw [getD_setAt_ne _ _ _ _ _ hij]
        have : (slotFor c (expandMsg P m g).1.num == some i) = false := by
          rw [hnum]; simp [hij]
        simp only [this, Bool.false_eq_true, ↓reduceIte]

/-- Messages handled by `File.add` itself (file_id, file_creator, timestamp_correlation,
    field_description, developer_data_id) never reach the container. -/
theorem common_first (P : Profile) (f f' : FileSt) (m : Msg) (g g' : Globals)
    (hc : m.num = mnFileId ∨ m.num = mnFileCreator ∨ m.num = mnTimestampCorrelation ∨
          m.num = mnFieldDescription ∨ m.num = mnDeveloperDataId)
    (h : f.add P m g = some (f', g')) : f'.slots = f.slots ∧ g' = g := by
  cases add_iff.mp h with
  | slot _ hn _ => exact absurd (by simpa [commonNums] using hc) hn
  | _ => exact ⟨rfl, rfl⟩

/-- what the generator must get right in the routing tables -/
def RoutersWF (P : Profile) : Bool :=
  P.containers.all (fun c =>
    -- every slot is the first one for its message number: each hosted type has exactly one slot
    (List.range c.slots.length).all (fun i => slotFor c (c.slots.getD i default).msg == some i)
    -- and every hosted type is a known message with a struct type
    && c.slots.all (fun s => P.known s.msg && !(s.msg == mnFileId || s.msg == mnFileCreator ||
         s.msg == mnTimestampCorrelation || s.msg == mnFieldDescription || s.msg == mnDeveloperDataId)))
  -- an entry for every byte value: `initAns` never answers by its default
  && P.fileTypes.length == 256

theorem gen_routers_wf : RoutersWF Gen.profile = true := by decide +kernel

def _root_.Fit.InitAns.isContainer : InitAns → Bool
  | .container _ => true
  | _ => false

/-- every file-type value: exactly the 17 hosted types get a container; 0xFF, unknown values and
    the manufacturer range 0xF7–0xFE are rejected (the latter as "not supported") -/
theorem init_rejects : ∀ t : Fin 256,
    (Gen.profile.initAns t.val = .notsupported ↔ (0xF7 ≤ t.val ∧ t.val ≤ 0xFE)) ∧
    ((Gen.profile.initAns t.val).isContainer = true ↔
      t.val ∈ [1, 2, 3, 4, 5, 6, 7, 9, 10, 11, 14, 15, 20, 28, 32, 34, 35]) := by
  decide +kernel

/-- distinct hosted file types have distinct containers -/
theorem container_of_type_injective : ∀ s t : Fin 256,
    (Gen.profile.initAns s.val).isContainer = true →
    Gen.profile.initAns s.val = Gen.profile.initAns t.val → s = t :=
  -- `initAns t` is `fileTypes.getD t .format`; that every container stands at its first occurrence takes 256
  -- kernel evaluations, all pairs `s t` would take 65 536
  fun _ _ hs e => Fin.ext (getD_inj_of_first Gen.profile.fileTypes .format InitAns.isContainer rfl
    (by decide +kernel) hs e)

/-- For every file-type value: a hosted type is answered by exactly one accessor and every other
    accessor returns an error; a value that is not hosted is answered by none. -/
theorem accessor_exact : ∀ t : Fin 256,
    (Gen.profile.accessors.filter (fun a => a.2.contains t.val)).length =
      (if (Gen.profile.initAns t.val).isContainer then 1 else 0) := by
  decide +kernel

theorem accessors_count : Gen.profile.accessors.length = Gen.profile.containers.length := by decide

end Fit.Props.C03
