import FitProofs.DecodeAccepts
import FitProofs.MsgRoundtrip
import FitProofs.Pad
/-
  C06 at file level: what `Decode` returns on the bytes `Encode` wrote.  The record machine, run
  on the blocks the File's groups are written as, hands exactly the File's messages — in the encoder's order —
  to `File.add`; so the decoded File is the replay of `add` over those messages.
-/
namespace Fit

theorem addAll_some (P : Profile) (fg : FileSt × Globals) (ms : List Msg) (h : fg.1.cidx.isSome = true) :
    ∃ fg', addAll P fg ms = some fg' ∧ fg'.1.cidx = fg.1.cidx := by
  induction ms generalizing fg with
  | nil => exact ⟨fg, rfl, rfl⟩
  | cons m ms ih =>
    obtain ⟨f', g', hadd, hci⟩ := add_succeeds P fg.1 m fg.2 (Or.inl h)
    simp only [addAll, hadd]
    obtain ⟨fg', h1, h2⟩ := ih (f', g') (by rw [hci]; exact h)
    exact ⟨fg', h1, by rw [h2]; exact hci⟩

/-- a good block whose records rebuild `ms` -/
structure MsgBlock (P : Profile) (d : DefMsg) (partss : List (List Bytes)) (ms : List Msg) : Prop where
  good : GoodBlock P d partss
  rb : All2 (Rebuilds P d) partss ms

/-- what the round trip needs of one message written under the fields `W`: every written field
    round-trips, and every field left invalid holds the constructor's invalid value -/
structure MsgDom (P : Profile) (arch : Endian) (pm : PMsg) (m : Msg) (W : PField → Prop) : Prop where
  /-- a valid field is read back as itself, an array padded to the profile length -/
  rt : ∀ pf ∈ pm.fields, W pf → ∀ k v, pm.layout[pf.sindex]? = some k → m.vals[pf.sindex]? = some v →
    isInvalidVal pm pf.sindex v = false → ∀ fs, FieldRTG P (defOf arch m.num fs) pf k v
      (pm.invalid.getD pf.sindex (.u 0)) (padVal pf v)
  /-- a field the definition carries although this message leaves it invalid (it is valid in another
      message of the group): its invalid value, written as a filler, is read back as "nothing to
      store" — or, for an array, as the all-invalid array of the profile length -/
  filler : ∀ pf ∈ pm.fields, W pf → ∀ k v, pm.layout[pf.sindex]? = some k → m.vals[pf.sindex]? = some v →
    isInvalidVal pm pf.sindex v = true → ∀ fs, FieldRTG P (defOf arch m.num fs) pf k v v (padVal pf v)
  inv : ∀ i v, m.vals[i]? = some v → isInvalidVal pm i v = true → pm.invalid[i]? = some v

/-- `∀ bs, r = .ok bs → BlocksOf (fun b => MsgBlock P b.d b.partss b.ms) msgs bs`, written out -/
def IsMsgs (P : Profile) (r : Except EncErr Bytes) (msgs : List Msg) : Prop :=
  ∀ bs, r = .ok bs → ∃ blocks : List MB,
    bs = serialize (blocks.flatMap fun b => blockItems b.d b.partss) ∧
    (∀ b ∈ blocks, MsgBlock P b.d b.partss b.ms) ∧ blocks.flatMap (·.ms) = msgs

/-- a group of messages round-trips up to padding: written under the union definition, every member
    is rebuilt by the field loop as `wireMsg` of it — its arrays padded to the profile length, and a
    field the definition carries only for another member read back from the filler written for it -/
theorem encodeGroup_msgBlock (P : Profile) (hwf : ProfileWF P = true) (arch : Endian) (m0 : Msg) (rest : List Msg) (pm : PMsg)
    (hpm : P.msg? m0.num = some pm) (hkn : P.known m0.num = true)
    (hnum : ∀ m ∈ m0 :: rest, m.num = m0.num)
    (hd : ∀ m ∈ m0 :: rest, MsgDom P arch pm m (fun pf => ∃ m' ∈ m0 :: rest, validIn pm m' pf))
    {bs : Bytes} (h : encodeGroup P arch (m0 :: rest) = .ok bs) :
    ∃ fs partss, bs = serialize (blockItems (defOf arch m0.num fs) partss) ∧
      MsgBlock P (defOf arch m0.num fs) partss ((m0 :: rest).map (wireMsg pm (m0 :: rest))) := by
  obtain ⟨pm', defs, partss, hplan, hall, rfl⟩ := encodeGroup_ok h
  cases hpm.symm.trans hplan.msg
  have hlens := hplan.lens
  have hmw := msg?_facts hwf hpm
  have hu := unionFields_spec hmw hplan.defs
  have hgood := (hplan.written hwf hall).good hwf hkn
  generalize unionFields defs = fs at hall hu hgood ⊢
  have hmem := hu.mem
  refine ⟨fs, partss, rfl, hgood, All2.map_right _ hall ?_⟩
  intro parts m _ hm hparts pm' hpm' st
  have hpm'' : P.msg? m0.num = some pm' := hpm'
  cases hpm.symm.trans hpm''
  show ∃ st', stepFields P (defOf arch m0.num fs) true (fs.map fdOf) parts (some ⟨m0.num, pm.invalid⟩) st = _
  have hmn : m.num = m0.num := hnum m hm
  have hvl := hlens m hm
  -- the field loop rebuilds the padded values
  obtain ⟨vals', st', h1, h2, h3, h4⟩ := record_rebuilds P arch m0.num hu.sorted hvl hparts padVal
    (fun pf hp k v hk hv => by
      cases hiv : isInvalidVal pm pf.sindex v with
      | false =>
        have := (hd m hm).rt pf (hmem pf hp) (hu.valid pf hp) k v hk hv hiv fs
        rwa [hmn] at this
      | true =>
        have := (hd m hm).filler pf (hmem pf hp) (hu.valid pf hp) k v hk hv hiv fs
        rw [hmn] at this
        rwa [getD_of_getElem? _ _ _ _ ((hd m hm).inv pf.sindex v hv hiv)])
    (fun i v hv hi => (hd m hm).inv i v hv (invalid_of_not_covered (hu.cover m hm) hv hi)) st
  refine ⟨st', ?_⟩
  -- which are `wireMsg`'s
  have hw := eq_wireMsg pm hmw (m0 :: rest) m fs hmem
    (fun pf hp => onIn_iff.mpr (hu.valid pf hp))
    (fun i pf hi hf hc => by
      -- a field valid in some member is carried
      cases hh : onIn pm (m0 :: rest) pf with
      | false => rfl
      | true =>
        obtain ⟨mx, hmx, hvx⟩ := onIn_iff.mp hh
        rw [validIn, fieldBySindex_sindex hf] at hvx
        obtain ⟨q, hq, e⟩ := hu.cover mx hmx i (by rw [hlens mx hmx, ← hvl]; exact hi) hvx
        exact absurd e (hc q hq))
    vals' h2 h3 h4
  rw [hmn] at hw
  rw [hw] at h1
  exact h1

theorem isMsgs_group (P : Profile) (hwf : ProfileWF P = true) (arch : Endian) (m0 : Msg) (rest : List Msg) (pm : PMsg)
    (hpm : P.msg? m0.num = some pm) (hkn : P.known m0.num = true)
    (hnum : ∀ m ∈ m0 :: rest, m.num = m0.num)
    (hd : ∀ m ∈ m0 :: rest, MsgDom P arch pm m (fun pf => ∃ m' ∈ m0 :: rest, validIn pm m' pf)) :
    IsMsgs P (encodeGroup P arch (m0 :: rest)) ((m0 :: rest).map (wireMsg pm (m0 :: rest))) := by
  intro bs h
  obtain ⟨fs, partss, rfl, hb⟩ := encodeGroup_msgBlock P hwf arch m0 rest pm hpm hkn hnum hd h
  exact BlocksOf.single ⟨_, partss, _⟩ hb

/-- the messages `Encode` writes after file_id, in its order: file_creator, timestamp_correlation,
    then the container's fields in struct order (a slice contributes every message, a pointer field
    its message) -/
def encodedMsgs (c : Container) (f : FileSt) : List Msg :=
  f.creator.toList ++ (f.tscorr.toList ++
    (c.slots.zip f.slots).flatMap fun (cs, ms) => if cs.many then ms else ms.take 1)

/-- `MsgDom` for every member, with `W` = valid in some member: the fields of the union definition -/
def SlotDom (P : Profile) (arch : Endian) (ms : List Msg) : Prop :=
  ∀ m0 rest, ms = m0 :: rest → P.known m0.num = true ∧ (∀ m ∈ ms, m.num = m0.num) ∧
    ∀ pm, P.msg? m0.num = some pm → ∀ m ∈ ms, MsgDom P arch pm m (fun pf => ∃ m' ∈ ms, validIn pm m' pf)

/-- `MsgDom` with `W` = the message's own valid fields -/
def OneDom (P : Profile) (arch : Endian) (m : Msg) : Prop :=
  P.known m.num = true ∧ ∀ pm, P.msg? m.num = some pm → MsgDom P arch pm m (validIn pm m)

theorem MsgDom.anti {P : Profile} {arch : Endian} {pm : PMsg} {m : Msg} {W W' : PField → Prop}
    (h : MsgDom P arch pm m W) (hw : ∀ pf, W' pf → W pf) : MsgDom P arch pm m W' :=
  ⟨fun pf hp hwp => h.rt pf hp (hw pf hwp), fun pf hp hwp => h.filler pf hp (hw pf hwp), h.inv⟩

theorem SlotDom.head {P : Profile} {arch : Endian} {m : Msg} {rest : List Msg} (h : SlotDom P arch (m :: rest)) :
    OneDom P arch m := by
  obtain ⟨hk, _, hd⟩ := h m rest rfl
  exact ⟨hk, fun pm hpm => (hd pm hpm m (List.mem_cons_self ..)).anti fun pf hv => ⟨m, List.mem_cons_self .., hv⟩⟩

/-- the domain of the file-level round trip (C06): a 12- or 14-byte ".FIT" header, and every message
    round-trips field by field under the definition it is written with -/
structure FileRT (P : Profile) (arch : Endian) (f : FileSt) : Prop where
  hdrSize : f.hdr.size = headerSizeNoCRC ∨ f.hdr.size = headerSizeCRC
  tag : f.hdr.dtype = fitTag
  proto : f.hdr.proto < 256 ∧ f.hdr.proto / 16 ≤ protoMajorMax
  fidNum : f.fileId.num = mnFileId
  fid : OneDom P arch f.fileId
  creator : ∀ m, f.creator = some m → OneDom P arch m
  tscorr : ∀ m, f.tscorr = some m → OneDom P arch m
  slots : ∀ ms ∈ f.slots, SlotDom P arch ms

theorem OneDom.slot {P : Profile} {arch : Endian} {m : Msg} (h : OneDom P arch m) : SlotDom P arch [m] := by
  intro m0 rest e
  cases e
  exact ⟨h.1, fun m' hm' => by rw [List.mem_singleton.mp hm'], fun pm hpm m' hm' => by
    rw [List.mem_singleton.mp hm']
    exact (h.2 pm hpm).anti fun pf ⟨m'', hm'', hv⟩ => List.mem_singleton.mp hm'' ▸ hv⟩

theorem encodeGroup_isMsgs (P : Profile) (hwf : ProfileWF P = true) (arch : Endian) (ms : List Msg) (h : SlotDom P arch ms) :
    IsMsgs P (encodeGroup P arch ms) (wireSlot P true ms) := by
  cases ms with
  | nil => intro bs hbs; cases hbs; exact BlocksOf.nil
  | cons m0 rest =>
    obtain ⟨hk, hnum, hd⟩ := h m0 rest rfl
    obtain ⟨pm, hpm, _⟩ := Profile.known_msg hk
    rw [wireSlot_many hpm]
    exact isMsgs_group P hwf arch m0 rest pm hpm hk hnum (hd pm hpm)

theorem FileRT.restGroups {P : Profile} {arch : Endian} {f : FileSt} (h : FileRT P arch f) (c : Container)
    {ms : List Msg} (hms : ms ∈ restGroups c f) : SlotDom P arch ms := by
  rcases restGroups_cases (List.mem_cons_of_mem _ hms) with rfl | ⟨m, rfl, hm⟩ | ⟨z, hz, rfl⟩
  · intro _ _ e; cases e
  · rcases hm with rfl | hm | hm
    · exact h.fid.slot
    · exact (h.creator m hm).slot
    · exact (h.tscorr m hm).slot
  · have hz2 := h.slots z.2 (List.of_mem_zip hz).2
    unfold slotMsgs
    split
    · exact hz2
    · cases hzz : z.2 with
      | nil => intro _ _ e; cases e
      | cons m rest => rw [hzz] at hz2; exact hz2.head.slot

theorem restGroups_wire (P : Profile) (c : Container) (f : FileSt) :
    (restGroups c f).flatMap (wireSlot P true) = encodedMsgs c (wireFile P c f) := by
  have hopt : ∀ om : Option Msg, wireSlot P true om.toList = (om.map (wire1 P)).toList := by
    intro om
    cases om with
    | none => rfl
    | some m => exact wireSlot_single P m
  have hslot : ∀ z : CSlot × List Msg, wireSlot P true (slotMsgs z) =
      if z.1.many then wireSlot P z.1.many z.2 else (wireSlot P z.1.many z.2).take 1 := by
    intro z
    unfold slotMsgs
    cases hm : z.1.many with
    | true => rfl
    | false =>
      cases z.2 with
      | nil => rfl
      | cons m rest =>
        rw [if_neg Bool.false_ne_true, if_neg Bool.false_ne_true]
        show wireSlot P true [m] = _
        rw [wireSlot_single, wireSlot_one]
        rfl
  simp only [restGroups, encodedMsgs, wireFile, List.flatMap_cons, List.flatMap_map, zip_map_zip, hopt, hslot]

/-- **`Decode ∘ Encode`, whole File.** On a well-formed profile, for every File in the round-trip
    domain that `Encode` accepts: decoding the bytes (followed by anything)
    succeeds, and the File returned is the replay of `File.add` — from the freshly attached, empty
    container carrying the File's own file_id — over the File's messages in the encoder's order,
    each with the array fields its record carries padded to the profile length (`wireFile`). -/
theorem decode_encode_file (P : Profile) (hwf : ProfileWF P = true) (arch : Endian) (f f' : FileSt) (bs : Bytes)
    (h : encode P arch f = .ok bs f') (hdom : FileRT P arch f) (hsmall : bs.length < 4294967296)
    (o : Opts) (g : Globals) (tail : Bytes) (stop : Stop) :
    ∃ (i : Nat) (H : Header) (C : Nat) (F : FileSt) (G : Globals) (F' : FileSt),
      f.cidx = some i ∧
      addAll P ({ hdr := H, fileId := (wireFile P (P.containers.getD i default) f).fileId, cidx := some i,
                  slots := List.replicate (P.containers.getD i default).slots.length [] }, g)
        (encodedMsgs (P.containers.getD i default) (wireFile P (P.containers.getD i default) f)) = some (F, G) ∧
      (decodeSpec P o .full g (bs ++ tail) stop).1.success ∧
      (decodeSpec P o .full g (bs ++ tail) stop).1.st.glob = G ∧
      (decodeSpec P o .full g (bs ++ tail) stop).1.st.file = some F' ∧
      F'.sameContent { F with crc := C } ∧
      ((H.size = headerSizeNoCRC ∨ H.size = headerSizeCRC) ∧ H.dtype = fitTag ∧ H.proto = f.hdr.proto) := by
  obtain ⟨pm0, hpm0, _⟩ := Profile.known_msg hdom.fid.1
  obtain ⟨hk0, hnum0, hd0⟩ := hdom.fid.slot f.fileId [] rfl
  obtain ⟨i, H, C, blocks, ms, st', fg', hci, hH, hgb, hms, hadd, ⟨hfile', hglob', _, _⟩, hms', key⟩ :=
    decode_encoded P hwf h hdom.hdrSize hdom.tag hdom.proto hsmall hdom.fidNum
      (m' := wireMsg pm0 [f.fileId] f.fileId) hdom.fidNum
      (fun F hF => by
        rw [fileTypeOf_congr (b := { f with fileId := wireMsg pm0 [f.fileId] f.fileId }) hF, fileTypeOf_wire])
      (fun b0 h0 => by
        obtain ⟨fs, partss, e, hb⟩ := encodeGroup_msgBlock P hwf arch _ [] pm0 hpm0 hk0 hnum0 (hd0 pm0 hpm0) h0
        obtain ⟨p, rfl, hr⟩ := hb.rb.of_singleton
        exact ⟨fs, p, e, hb.good, hr⟩)
      (Qb := fun b => MsgBlock P b.d b.partss b.ms) (gm := wireSlot P true) (fun _ hb => hb.good)
      (fun c ms hms bs hbs => encodeGroup_isMsgs P hwf arch ms (hdom.restGroups c hms) bs hbs) o g tail stop
  rw [hms' fun b hb => (hgb b hb).rb, hms, restGroups_wire] at hadd
  rw [key]
  have kp := finalize_keeps o (okOut { st' with crc := 0#16, file := st'.file.map fun x => { x with crc := C } })
  obtain ⟨F', hF', hsame⟩ := kp.content { fg'.1 with crc := C } (by simp only [okOut, hfile', Option.map_some])
  refine ⟨i, H, C, fg'.1, fg'.2, F', hci, ?_, finalize_okOut_success o _, kp.glob.trans hglob', hF', hsame, hH⟩
  rw [show (wireFile P (P.containers.getD i default) f).fileId = _ from wire1_of_msg? hpm0]
  exact hadd

end Fit
