import FitModel.LatLng
import FitProps.C17Float
/-!
  C17 — coordinate and time value types convert exactly and flag invalids consistently.

  The integer statements are here.  The one inexact operation of latlng.go,
  `int32(degrees * (2^31/180))`, is stated under the IEEE-754 standard-model hypothesis in
  `from_degrees_within_one` (the hypothesis is part of the statement, not an axiom); the
  correspondence run enumerates all 2^32 values against the real code (thorough tier).
-/
namespace Fit.Props.C17
open Fit Fit.LatLng

def inRange32 (s : Int) : Prop := -2147483648 ≤ s ∧ s ≤ 2147483647

/-- Latitude: invalid exactly for the sentinel or outside ±90° — except for +90° itself
    (semicircles 2^30), which `NewLatitude` flags invalid while −90° is valid: known finding D14. -/
theorem lat_invalid_iff_partial (s : Int) (hs : inRange32 s) (h : s ≠ 1073741824) :
    invalid (newLatitude s) = true ↔ (s = 2147483647 ∨ s < -1073741824 ∨ s > 1073741824) := by
  unfold invalid newLatitude sint32Invalid inRange32 at *
  constructor
  · intro hi
    split at hi
    · left; assumption
    · split at hi
      · rename_i h2; rcases h2 with h2 | h2
        · right; left; exact h2
        · right; right; omega
      · simp at hi; omega
  · intro hi
    split
    · simp
    · split
      · simp
      · rename_i h1 h2
        simp
        omega

/-- D14: exactly +90° is flagged invalid although it is a legal latitude -/
theorem lat_pole_counterexample :
    invalid (newLatitude 1073741824) = true ∧ invalid (newLatitude (-1073741824)) = false ∧
    (1073741824 : Int) * 180 = 90 * 2147483648 := by decide

/-- Longitude: invalid exactly for the sentinel -/
theorem lng_invalid_iff (s : Int) : invalid (newLongitude s) = true ↔ s = 2147483647 := by
  simp [invalid, newLongitude, sint32Invalid]

/-- `Semicircles` returns the stored value whenever the coordinate is valid -/
theorem semicircles_id (s : Int) :
    (invalid (newLatitude s) = false → newLatitude s = s) ∧ newLongitude s = s := by
  refine ⟨?_, rfl⟩
  unfold invalid newLatitude sint32Invalid
  intro h
  split
  · rename_i h1; simp at h; omega
  · split
    · rename_i h1 h2; simp at h; omega
    · rfl

/-- `Degrees` is NaN iff invalid, else exactly semicircles × 180 / 2^31; the numerator is below
    2^53 in magnitude, so the float64 evaluation `float64(s) * (180/2^31)` is exact (both factors
    and the product are representable: 180/2^31 = 45·2^-29). -/
theorem degrees_exact (stored : Int) (hs : inRange32 stored) :
    (degreesNum stored = none ↔ invalid stored = true) ∧
    (invalid stored = false → degreesNum stored = some (stored * 180) ∧
      -9007199254740992 < stored * 180 ∧ stored * 180 < 9007199254740992) := by
  unfold degreesNum inRange32 at *
  constructor
  · cases h : invalid stored <;> simp
  · intro h
    simp only [h, Bool.false_eq_true, ↓reduceIte, true_and]
    omega

/-- FIT time ↔ seconds: a bijection on all 32-bit second counts (no `time.Duration` saturation
    can occur: 2^32 · 10^9 < 2^63) -/
theorem time_bijection (v : Nat) (hv : v < 4294967296) :
    encodeTime (decodeDateTime v) = v ∧ (v : Int) * 1000000000 < 9223372036854775807 := by
  unfold encodeTime decodeDateTime clampDuration toUnsigned
  have h1 : ¬ ((v : Int) * 1000000000 > 9223372036854775807) := by omega
  have h2 : ¬ ((v : Int) * 1000000000 < -9223372036854775808) := by omega
  simp only [h1, h2, ↓reduceIte]
  constructor
  · rw [Int.mul_tdiv_cancel _ (by decide)]
    simp only [Nat.reducePow]
    omega
  · omega

/-- whole seconds in range come back unchanged -/
theorem time_roundtrip (secs : Int) (h0 : 0 ≤ secs) (h1 : secs < 4294967296) :
    decodeDateTime (encodeTime secs) = secs := by
  have := (time_bijection secs.toNat (by omega)).1
  have e : ((secs.toNat : Nat) : Int) = secs := Int.toNat_of_nonneg h0
  unfold decodeDateTime at *
  rw [e] at this
  rw [this]
  exact e

/-- `IsBaseTime` is true only at zero -/
theorem base_time_iff (v : Nat) : isBaseTime (decodeDateTime v) = true ↔ v = 0 := by
  simp [isBaseTime, decodeDateTime]

/-- times before the epoch or far away wrap modulo 2^32 (e.g. Go's zero time saturates) -/
example : encodeTime (-62766662400) = 3661529852 := by decide +kernel

example : invalid (newLatitude 1073741823) = false ∧ newLatitude 123 = 123 := by decide

end Fit.Props.C17
