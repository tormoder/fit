import FitProofs.FieldValue
import FitProofs.Untouched
import FitModel.Items
import FitModel.WF
import FitModel.Gen.Profile
import FitProofs.Framing
import FitProofs.WholeFile
/-!
  C02 — decoded field values equal the values carried on the wire.

  `wireNat arch raw` is the unsigned integer the bytes denote in the definition's byte order,
  `toSigned bits` its two's-complement reading.  The theorems state what `parseFitField`,
  `parseFitFieldArray`, and the time/coordinate branches of `applyField` store for a definition
  of each base type, into a struct field of the Go kind the profile calls for (`slotOfType`).
  The record machine (`stepItem`) applies these functions field by field; FitProofs/Framing.lean
  connects it with the byte-level parser.
-/
namespace Fit.Props.C02
open Fit

def wireNat (arch : Endian) (raw : Bytes) : Nat := arch.dec raw

theorem wireNat_lt (arch : Endian) (raw : Bytes) : wireNat arch raw < 256 ^ raw.length := arch.dec_lt raw

theorem ite_prop_of {α} (c : Prop) [Decidable c] (a b : α) (Q : α → Prop) (h1 : c → Q a) (h2 : ¬c → Q b) :
    Q (if c then a else b) := by
  split
  · exact h1 ‹_›
  · exact h2 ‹_›

/-- two's complement survives the detour through `int64` that `reflect.Value.SetInt` takes -/
theorem signed_roundtrip (W : Nat) (hW : W = 8 ∨ W = 16 ∨ W = 32 ∨ W = 64) (z : Int)
    (hlo : -(2 ^ (W - 1) : Int) ≤ z) (hhi : z < (2 ^ (W - 1) : Int)) :
    toSigned W (toUnsigned 64 z) = z :=
  toSigned_toUnsigned_le W 64 (by omega) (by omega) z hlo hhi

theorem toSigned_range (bits : Nat) (hb : bits = 8 ∨ bits = 16 ∨ bits = 32) (n : Nat) :
    -(2 ^ (bits - 1) : Int) ≤ toSigned bits n ∧ toSigned bits n < (2 ^ (bits - 1) : Int) := by
  have hm := Nat.mod_lt n (Nat.two_pow_pos bits)
  unfold toSigned
  rcases hb with rfl | rfl | rfl <;>
  · simp only [Nat.reducePow, Nat.reduceSub, Int.reducePow] at hm ⊢
    split <;> omega

/-- widening a `w`-bit two's-complement value into a wider signed slot preserves it -/
theorem widen_signed (w W : Nat) (hw : w = 8 ∨ w = 16 ∨ w = 32) (hW : W = 8 ∨ W = 16 ∨ W = 32 ∨ W = 64)
    (hle : w ≤ W) (n : Nat) :
    setInt (.sc (.i W)) (toSigned w n) = some (.i (toSigned w n)) := by
  have hr := toSigned_range w hw n
  have hp : (2 ^ (w - 1) : Int) ≤ 2 ^ (W - 1) := by
    exact_mod_cast Nat.pow_le_pow_right (by decide) (Nat.sub_le_sub_right hle 1)
  simp only [setInt]
  rw [signed_roundtrip W hW _ (by omega) (by omega)]

/-- widening an unsigned value below `2^W` into an unsigned slot preserves it -/
theorem widen_unsigned (W v : Nat) (h : v < 2 ^ W) : setUint (.sc (.u W)) v = some (.u v) := by
  simp [setUint, Nat.mod_eq_of_lt h]

theorem int_field_denotes (arch : Endian) (fd : FieldDef) (k : SlotKind) (raw : Bytes) (b : Nat) (hb : fd.btype = b)
    (hp : b ∈ Base.parsed) (hs : b ≠ Base.string) (hf : Base.isFloat b = false) (hl : raw.length = Base.size b) :
    parseFitField arch fd k raw = .ofSet (if Base.signed b then setInt k (toSigned (8 * Base.size b) (wireNat arch raw))
      else setUint k (wireNat arch raw)) := by
  subst hb
  rw [parseFitField_eq hp, if_neg hs, if_neg (by omega), hf, List.take_of_length_le (by omega)]
  rfl

/-- sint8 / sint16 / sint32 definitions store the two's-complement value of the wire bytes,
    value-preservingly widened to the (possibly wider) signed struct field — also for
    definitions narrower than the profile type, in either byte order. -/
theorem signed_field_denotes (arch : Endian) (fd : FieldDef) (W : Nat) (raw : Bytes)
    (hW : W = 8 ∨ W = 16 ∨ W = 32 ∨ W = 64) :
    (fd.btype = Base.sint8 → raw.length = 1 → 8 ≤ W →
      parseFitField arch fd (.sc (.i W)) raw = .ok (some (.i (toSigned 8 (wireNat arch raw))))) ∧
    (fd.btype = Base.sint16 → raw.length = 2 → 16 ≤ W →
      parseFitField arch fd (.sc (.i W)) raw = .ok (some (.i (toSigned 16 (wireNat arch raw))))) ∧
    (fd.btype = Base.sint32 → raw.length = 4 → 32 ≤ W →
      parseFitField arch fd (.sc (.i W)) raw = .ok (some (.i (toSigned 32 (wireNat arch raw))))) := by
  refine ⟨fun hb hl hw => ?_, fun hb hl hw => ?_, fun hb hl hw => ?_⟩
  · rw [int_field_denotes arch fd _ raw _ hb (by decide) (by decide) rfl hl]
    exact congrArg FieldRes.ofSet (widen_signed 8 W (Or.inl rfl) hW hw _)
  · rw [int_field_denotes arch fd _ raw _ hb (by decide) (by decide) rfl hl]
    exact congrArg FieldRes.ofSet (widen_signed 16 W (Or.inr (Or.inl rfl)) hW hw _)
  · rw [int_field_denotes arch fd _ raw _ hb (by decide) (by decide) rfl hl]
    exact congrArg FieldRes.ofSet (widen_signed 32 W (Or.inr (Or.inr rfl)) hW hw _)

theorem unsigned_denotes (arch : Endian) (fd : FieldDef) (W : Nat) (raw : Bytes) (b : Nat) (hb : fd.btype = b)
    (hp : b ∈ Base.parsed) (hs : b ≠ Base.string) (hf : Base.isFloat b = false) (hsg : Base.signed b = false)
    (hl : raw.length = Base.size b) (hw : 8 * Base.size b ≤ W) :
    parseFitField arch fd (.sc (.u W)) raw = .ok (some (.u (wireNat arch raw))) := by
  have hlt : wireNat arch raw < 2 ^ W := by
    have := wireNat_lt arch raw
    rw [hl, pow256] at this
    exact Nat.lt_of_lt_of_le this (Nat.pow_le_pow_right (by decide) hw)
  rw [int_field_denotes arch fd _ raw b hb hp hs hf hl, hsg]
  exact congrArg FieldRes.ofSet (widen_unsigned W _ hlt)

/-- unsigned definitions (enum, byte, uint8(z), uint16(z), uint32(z)) store the unsigned value of
    the wire bytes, value-preservingly widened. -/
theorem unsigned_field_denotes (arch : Endian) (fd : FieldDef) (W : Nat) (raw : Bytes) :
    ((fd.btype = Base.enum ∨ fd.btype = Base.byte ∨ fd.btype = Base.uint8 ∨ fd.btype = Base.uint8z) →
      raw.length = 1 → 8 ≤ W →
      parseFitField arch fd (.sc (.u W)) raw = .ok (some (.u (wireNat arch raw)))) ∧
    ((fd.btype = Base.uint16 ∨ fd.btype = Base.uint16z) → raw.length = 2 → 16 ≤ W →
      parseFitField arch fd (.sc (.u W)) raw = .ok (some (.u (wireNat arch raw)))) ∧
    ((fd.btype = Base.uint32 ∨ fd.btype = Base.uint32z) → raw.length = 4 → 32 ≤ W →
      parseFitField arch fd (.sc (.u W)) raw = .ok (some (.u (wireNat arch raw)))) := by
  refine ⟨fun hb hl hw => ?_, fun hb hl hw => ?_, fun hb hl hw => ?_⟩
  · rcases hb with hb | hb | hb | hb <;>
      exact unsigned_denotes arch fd W raw _ hb (by decide) (by decide) rfl rfl hl hw
  · rcases hb with hb | hb <;>
      exact unsigned_denotes arch fd W raw _ hb (by decide) (by decide) rfl rfl hl hw
  · rcases hb with hb | hb <;>
      exact unsigned_denotes arch fd W raw _ hb (by decide) (by decide) rfl rfl hl hw

/-- strings: the bytes up to the first NUL; an empty string leaves the field at its invalid value -/
theorem string_field_denotes (arch : Endian) (fd : FieldDef) (raw : Bytes) (hb : fd.btype = Base.string) :
    parseFitField arch fd (.sc .s) raw =
      .ok (if (raw.takeWhile (· != 0)).isEmpty then none else some (.s (raw.takeWhile (· != 0)))) := by
  rw [parseFitField_eq (by rw [hb]; decide), if_pos hb]
  split <;> rfl

/-- non-vacuity: 0xFF as sint8 into an int16 field is −1; 0x1234 big-endian as uint16 into a uint32 field -/
example : parseFitField .le ⟨9, 1, Base.sint8⟩ (.sc (.i 16)) [0xFF] = .ok (some (.i (-1))) := by rfl
example : parseFitField .be ⟨5, 2, Base.uint16⟩ (.sc (.u 32)) [0x12, 0x34] = .ok (some (.u 0x1234)) := by rfl

/-- **Framing (byte parser = record machine)** = `run_items`: the theorems of this file about the
    record machine are theorems about the decoder on every stream of fitting items. -/
theorem byte_parser_is_record_machine (P : Profile) (limit : Nat) (cont : DecSt → DP) (its : List Item) (fuel : Nat)
    (st : DecSt) (n : Nat) (s : SpecSt) (tail : Bytes) (hfit : ItemsFit P st its)
    (hs : s.rest = serialize its ++ tail) (hl : n + (serialize its).length ≤ limit) (hn : st.n = n) :
    match stepItems P st its with
    | .ok st' =>
      runSpecD limit (decodeFileData P limit (fuel + its.length) st cont) n s =
        runSpecD limit (decodeFileData P limit fuel st' cont) (n + (serialize its).length)
          { s with rest := tail, taken := s.taken + (serialize its).length } ∧ st'.n = n + (serialize its).length
    | .stop o =>
      ∃ e, (runSpecD limit (decodeFileData P limit (fuel + its.length) st cont) n s).1 = .inl e ∧
        e.err = (exitOf o).err :=
  run_items P limit cont its fuel st n s tail hfit hs hl hn

/-- **Whole-file framing.** Any list of items that starts with a file_id definition and its data
    record and fits (each data record carries what the definition live for its local type declares),
    laid out as a FIT writer does (a header of any of the three kinds readers accept — 12 bytes,
    14 bytes with a zero CRC field, 14 bytes with its CRC — then records, then the file CRC) and followed by
    anything: if the record machine accepts the items, `Decode` succeeds on those bytes and returns
    exactly the record machine's state — the File with every message routed, the definition table,
    the timestamp reference and the counters — with the file CRC recorded. Together with the
    per-field theorems above: every field of every message of every well-formed file holds the
    value its own wire bytes denote. -/
theorem whole_file_framing (P : Profile) (o : Opts) (k : HdrKind) (g : Globals) (proto profile : Nat)
    (d0 : DefMsg) (b0 : Bool) (fs dev : List Bytes) (rest : List Item) (tail : Bytes) (stop : Stop) (st' : DecSt)
    (hp : proto < 256) (hp2 : proto / 16 ≤ protoMajorMax)
    (hwf0 : DefnWF d0 b0) (hg : d0.global = mnFileId) (hkn : P.known mnFileId = true)
    (hlen : (serialize (.defn d0 b0 :: .data d0.localT fs dev :: rest)).length < 4294967296)
    (hfit : ItemsFitD P (List.replicate 16 none) (.defn d0 b0 :: .data d0.localT fs dev :: rest))
    (hrun : runItems P (afterHeader k g proto profile (serialize (.defn d0 b0 :: .data d0.localT fs dev :: rest)).length).hdr g
      (.defn d0 b0 :: .data d0.localT fs dev :: rest)
      (afterHeader k g proto profile (serialize (.defn d0 b0 :: .data d0.localT fs dev :: rest)).length).crc = .ok st') :
    (decodeSpec P o .full g
      (frameBytesK k proto profile (serialize (.defn d0 b0 :: .data d0.localT fs dev :: rest)) ++ tail) stop).1 =
      finalize o (okOut { st' with
        crc := 0#16,
        file := st'.file.map fun f => { f with crc := (Crc.checksum (frameHdr k proto profile
          (serialize (.defn d0 b0 :: .data d0.localT fs dev :: rest)).length ++
          serialize (.defn d0 b0 :: .data d0.localT fs dev :: rest))).toNat } }) :=
  decode_frame_ok P o k g proto profile d0 b0 fs dev rest tail stop st' hp hp2 hwf0 hg hkn hlen hfit hrun

/-- **An unknown field is skipped**: a field number the profile does not list for the message changes
    neither the message under construction nor the timestamp reference (its bytes were consumed by
    the reader — Framing — and nothing else happens). -/
theorem unknown_field_skipped (P : Profile) (dm : DefMsg) (known : Bool) (fd : FieldDef) (raw : Bytes) (m : Option Msg)
    (ts : TsRef) (h : P.getField dm.global fd.num = none) :
    applyField P dm known fd raw m ts = .ok m ts := by
  exact applyField_unlisted h known raw m ts

/-- **Fields that are not present hold their type's invalid value, and no field disturbs its
    neighbours.** Decode a data record of a known message under any definition, starting — as the
    decoder does — from the constructor's message. Every struct field that none of the definition's
    field numbers designates in the profile (it is absent from the definition; the definition may
    list other fields, unlisted field numbers, developer fields) holds in the decoded message exactly
    what the constructor put there: by `entry_invalid` (C15) the invalid value of its type. -/
theorem absent_fields_stay_invalid (P : Profile) (dm : DefMsg) (raws : List Bytes) (pm : PMsg) (st : DecSt)
    (m' : Option Msg) (st' : DecSt)
    (h : stepFields P dm true dm.fields raws (some ⟨dm.global, pm.invalid⟩) st = .ok m' st') (i : Nat)
    (hi : ∀ fd ∈ dm.fields, ∀ pf, P.getField dm.global fd.num = some pf → pf.sindex ≠ i) :
    ∃ msg', m' = some msg' ∧ msg'.num = dm.global ∧ msg'.vals[i]? = pm.invalid[i]? :=
  stepFields_untouched h i hi

/-- one field writes one struct position: whatever a field of the record carries, the decoded
    message differs from the message before it at most at the struct position of that field's
    profile entry -/
theorem field_writes_own_position (P : Profile) (dm : DefMsg) (known : Bool) (fd : FieldDef) (raw : Bytes) (msg : Msg)
    (ts : TsRef) (m' : Option Msg) (ts' : TsRef) (h : applyField P dm known fd raw (some msg) ts = .ok m' ts') :
    m' = some msg ∨ ∃ pf v, P.getField dm.global fd.num = some pf ∧
      m' = some { msg with vals := setAt msg.vals pf.sindex v } :=
  (applyField_inv h).imp id fun ⟨pf, _, _, v, hpf, _, _, _, e⟩ => ⟨pf, v, hpf, e⟩

/-- A time or coordinate field defined one or two bytes wide with a signed base type is widened to
    the profile's four bytes by sign extension of *its own* most significant byte: the four-byte
    value read back is the two's-complement value of the narrow field, in either byte order. -/
theorem narrow_signed_widens (arch : Endian) (btype : Nat) (hs : Base.signed btype = true) (hi : Base.integer btype = true) :
    (∀ x : UInt8, toSigned 32 (arch.dec ((padTmp arch btype [x] 1 4).take 4)) = toSigned 8 (wireNat arch [x])) ∧
    (∀ x y : UInt8, toSigned 32 (arch.dec ((padTmp arch btype [x, y] 2 4).take 4)) = toSigned 16 (wireNat arch [x, y])) := by
  refine ⟨fun x => ?_, fun x y => ?_⟩
  · exact toSigned_dec_padTmp arch btype [x] 1 4 hs hi rfl (by decide) (by decide)
  · exact toSigned_dec_padTmp arch btype [x, y] 2 4 hs hi rfl (by decide) (by decide)

/-- … and with an unsigned (or non-integer) base type by zero extension: the four-byte value is the
    unsigned value of the narrow field. -/
theorem narrow_unsigned_widens (arch : Endian) (btype : Nat) (hs : (Base.signed btype && Base.integer btype) = false) :
    (∀ x : UInt8, arch.dec ((padTmp arch btype [x] 1 4).take 4) = wireNat arch [x]) ∧
    (∀ x y : UInt8, arch.dec ((padTmp arch btype [x, y] 2 4).take 4) = wireNat arch [x, y]) := by
  refine ⟨fun x => ?_, fun x y => ?_⟩
  · exact dec_padTmp_unsigned arch btype [x] 1 4 hs rfl (by decide) (by decide)
  · exact dec_padTmp_unsigned arch btype [x, y] 2 4 hs rfl (by decide) (by decide)

/-- … and so a longitude defined as one or two signed bytes decodes to the two's-complement value of
    those bytes (big- or little-endian), not to something that depends on the bytes read before it. -/
theorem narrow_longitude_denotes (P : Profile) (dm : DefMsg) (fd : FieldDef) (pf : PField) (pm : PMsg) (msg : Msg)
    (ts : TsRef)
    (hf : P.getField dm.global fd.num = some pf) (hpm : P.msg? dm.global = some pm)
    (hb : tcBase pf.tcode = Base.sint32) (ha : tcArray pf.tcode = false) (hk : tcKind pf.tcode = .lng)
    (hl : pm.layout[pf.sindex]? = some .lng)
    (hs : Base.signed fd.btype = true) (hi : Base.integer fd.btype = true) :
    (∀ x : UInt8, fd.size = 1 →
      applyField P dm true fd [x] (some msg) ts =
        .ok (some { msg with vals := setAt msg.vals pf.sindex (.lng (toSigned 8 (wireNat dm.arch [x]))) }) ts) ∧
    (∀ x y : UInt8, fd.size = 2 →
      applyField P dm true fd [x, y] (some msg) ts =
        .ok (some { msg with vals := setAt msg.vals pf.sindex (.lng (toSigned 16 (wireNat dm.arch [x, y]))) }) ts) := by
  have key : ∀ raw : Bytes, raw.length = fd.size → 0 < fd.size → fd.size ≤ 4 →
      applyField P dm true fd raw (some msg) ts =
        .ok (some { msg with vals := setAt msg.vals pf.sindex (.lng (toSigned (8 * fd.size) (wireNat dm.arch raw))) }) ts := by
    intro raw hr h0 h4
    have hlen := padTmp_length dm.arch fd.btype raw fd.size 4 hr h0 h4
    rw [applyField_listed hf hpm hl, fieldValue_fixed (by rw [hk]; decide) ⟨by rw [hb]; decide, ha, by rw [hb]; rfl⟩]
    rw [tmpValue_lng hk (Nat.le_of_eq hlen.symm), if_neg fun h => h rfl,
      toSigned_dec_padTmp dm.arch fd.btype raw fd.size 4 hs hi hr h0 h4]
    rfl
  exact ⟨fun x h1 => by rw [key [x] h1.symm (by omega) (by omega), h1],
    fun x y h2 => by rw [key [x, y] h2.symm (by omega) (by omega), h2]⟩

/-- a latitude defined as one or two signed bytes: the two's-complement value of its own bytes
    (always within ±90°, so `NewLatitude` keeps it) -/
theorem narrow_latitude_denotes (P : Profile) (dm : DefMsg) (fd : FieldDef) (pf : PField) (pm : PMsg) (msg : Msg)
    (ts : TsRef)
    (hf : P.getField dm.global fd.num = some pf) (hpm : P.msg? dm.global = some pm)
    (hb : tcBase pf.tcode = Base.sint32) (ha : tcArray pf.tcode = false) (hk : tcKind pf.tcode = .lat)
    (hl : pm.layout[pf.sindex]? = some .lat)
    (hs : Base.signed fd.btype = true) (hi : Base.integer fd.btype = true) :
    (∀ x : UInt8, fd.size = 1 →
      applyField P dm true fd [x] (some msg) ts =
        .ok (some { msg with vals := setAt msg.vals pf.sindex (.lat (toSigned 8 (wireNat dm.arch [x]))) }) ts) ∧
    (∀ x y : UInt8, fd.size = 2 →
      applyField P dm true fd [x, y] (some msg) ts =
        .ok (some { msg with vals := setAt msg.vals pf.sindex (.lat (toSigned 16 (wireNat dm.arch [x, y]))) }) ts) := by
  -- of at most 16 bits, the value is far inside the range `NewLatitude` keeps
  have key : ∀ (raw : Bytes) (bits : Nat), raw.length = fd.size → 8 * fd.size = bits → (bits = 8 ∨ bits = 16) →
      applyField P dm true fd raw (some msg) ts =
        .ok (some { msg with vals := setAt msg.vals pf.sindex (.lat (toSigned bits (wireNat dm.arch raw))) }) ts := by
    intro raw bits hr hbits h816
    have hlen := padTmp_length dm.arch fd.btype raw fd.size 4 hr (by omega) (by omega)
    have hrange := toSigned_range bits (by omega) (dm.arch.dec raw)
    have hsmall : (2 ^ (bits - 1) : Int) ≤ 32768 := by rcases h816 with rfl | rfl <;> decide
    rw [applyField_listed hf hpm hl, fieldValue_fixed (by rw [hk]; decide) ⟨by rw [hb]; decide, ha, by rw [hb]; rfl⟩]
    rw [tmpValue_lat hk (Nat.le_of_eq hlen.symm), if_neg fun h => h rfl,
      toSigned_dec_padTmp dm.arch fd.btype raw fd.size 4 hs hi hr (by omega) (by omega), hbits,
      if_neg (by omega), if_neg (by omega)]
    rfl
  exact ⟨fun x h1 => key [x] 8 h1.symm (by omega) (Or.inl rfl), fun x y h2 => key [x, y] 16 h2.symm (by omega) (Or.inr rfl)⟩

/-- non-vacuity on the regenerated profile: record.position_long (message 20, field 1) is such a field -/
example : (match Gen.profile.getField 20 1, Gen.profile.msg? 20 with
    | some pf, some pm => (tcBase pf.tcode == Base.sint32) && !tcArray pf.tcode && (tcKind pf.tcode == .lng) &&
        (pm.layout[pf.sindex]? == some .lng) && Base.signed Base.sint16 && Base.integer Base.sint16
    | _, _ => false) = true := by
  decide +kernel

end Fit.Props.C02
