import FitProofs.Framing
/-
  C11, the partial File: a stream cut (or a reader failing) inside a record makes the record loop
  stop with an early exit, and the File it hands back is the File as it stood after the last complete
  record — the incomplete record leaves no trace.

  The `*_bind` equalities (each parser is its own run, then the continuation) let a statement about one
  record, proved with the continuation `done`, be used inside the loop.

  What is shown of the early exits of one record is `Reads`; that the File is kept is one consequence
  (`Reads.fileOf`), that the unknown-item counters have only grown another (C16Cut).  `cut_record` and
  `cut_items` therefore take any relation `R` that all early exits of one record satisfy.
-/
namespace Fit

theorem rd_bind {γ} (st : DecSt) (k : Nat) (c : Bytes → DecSt → DP) (K : DecSt → DProg ErrExit γ) :
    (rd st k c).bind K = .readBuf k (fun e => ⟨some (bufErr e), st⟩)
      (fun bs => (c bs { st with n := st.n + k, crc := Crc.update st.crc bs }).bind K) := rfl

theorem parseFields_bind (P : Profile) (dm : DefMsg) (known : Bool) (fds : List FieldDef) (m : Option Msg) (st : DecSt)
    (c : Option Msg → DecSt → DP) (K : DecSt → DP) :
    parseFields P dm known fds m st (fun m st => (c m st).bind K) = (parseFields P dm known fds m st c).bind K := by
  induction fds generalizing m st with
  | nil => rfl
  | cons fd fds ih =>
    simp only [parseFields_cons, rd, DProg.bind]
    congr 1
    funext raw
    split
    · rfl
    · rfl
    · exact ih _ _

theorem skipDev_bind (ds : List DevDesc) (st : DecSt) (c : DecSt → DP) (K : DecSt → DP) :
    skipDev ds st (fun st => (c st).bind K) = (skipDev ds st c).bind K := by
  induction ds generalizing st with
  | nil => rfl
  | cons d ds ih =>
    simp only [skipDev, rd, DProg.bind]
    congr 1
    funext raw
    exact ih _

theorem parseData_bind (P : Profile) (hb : Nat) (compressed : Bool) (st : DecSt)
    (c : Option Msg → DecSt → DP) (K : DecSt → DP) :
    parseData P hb compressed st (fun m st => (c m st).bind K) = (parseData P hb compressed st c).bind K := by
  have body : ∀ (dm : DefMsg) (known : Bool) (m : Option Msg) (st : DecSt),
      parseFields P dm known dm.fields m st (fun m st => skipDev dm.dev st fun st => (c m st).bind K) =
        (parseFields P dm known dm.fields m st (fun m st => skipDev dm.dev st fun st => c m st)).bind K := by
    intro dm known m st
    rw [← parseFields_bind]
    congr 1
    funext m st
    exact skipDev_bind dm.dev st (c m) K
  rw [parseData_pre, parseData_pre]
  cases dataPre P hb compressed st with
  | stop b st' => cases b <;> rfl
  | go dm m st' => exact body _ _ _ _

theorem ite_bind {c : Prop} [Decidable c] (a b : DP) (K : DecSt → DP) :
    (if c then a else b).bind K = if c then a.bind K else b.bind K := by
  split <;> rfl

theorem parseDefinition_bind (P : Profile) (hb : Nat) (st : DecSt) (c : DefMsg → DecSt → DP) (K : DecSt → DP) :
    parseDefinition P hb st (fun dm st => (c dm st).bind K) = (parseDefinition P hb st c).bind K := by
  unfold parseDefinition
  simp only [rd, DProg.bind, ite_bind, dfail]

def oneRecord (P : Profile) (limit : Nat) (st : DecSt) : DP := decodeFileData P limit 1 st fun st => .done st

theorem addThen_bind (P : Profile) (m : Option Msg) (st : DecSt) (c K : DecSt → DP) :
    addThen P (fun st => (c st).bind K) m st = (addThen P c m st).bind K := by
  unfold addThen
  cases addMsg P m st <;> rfl

theorem recordBody_bind (P : Profile) (st : DecSt) (c K : DecSt → DP) :
    (recordBody P st fun st => (c st).bind K) = (recordBody P st c).bind K := by
  unfold recordBody recordAfter
  simp only [rd, DProg.bind, ite_bind]
  congr 1
  funext hbs
  have hadd : (addThen P fun st => (c st).bind K) = fun m st => (addThen P c m st).bind K :=
    funext fun m => funext fun st => addThen_bind P m st c K
  rw [← parseData_bind, ← parseData_bind, ← parseDefinition_bind, hadd]

theorem oneRecord_eq (P : Profile) {limit : Nat} {st : DecSt} (h : st.n < limit) :
    oneRecord P limit st = recordBody P st fun st => .done st :=
  decodeFileData_succ P limit 0 st _ h

theorem loop_step (P : Profile) (limit fuel : Nat) (st : DecSt) (cont : DecSt → DP) :
    decodeFileData P limit (fuel + 1) st cont =
      (oneRecord P limit st).bind fun st' => decodeFileData P limit fuel st' cont := by
  by_cases h : st.n < limit
  · rw [oneRecord_eq P h, ← recordBody_bind, decodeFileData_succ P limit fuel st cont h]
    rfl
  · unfold oneRecord
    rw [decodeFileData_done P limit (fuel + 1) st cont h, decodeFileData_done P limit 1 st _ h]
    exact (decodeFileData_done P limit fuel st cont h).symm

/-- what a caller gets back of the decoder state with an error: the File and the accumulators -/
def DecSt.fileOf (st : DecSt) : Option FileSt × Globals := (st.file, st.glob)

def ExitsKeep (F : Option FileSt × Globals) : DP → Prop
  | .done _ => True
  | .exit e => e.st.fileOf = F
  | .readBuf _ onErr cont => (∀ r, (onErr r).st.fileOf = F) ∧ ∀ bs, ExitsKeep F (cont bs)

/-- said of the program tree (each `exit`, each `onErr` of a read), whatever the stream; `ExitsKeep F` is
    `ExitsSat (·.fileOf = F)` in C11's wording (`exitsKeep_iff`) -/
def ExitsSat (R : DecSt → Prop) : DP → Prop
  | .done _ => True
  | .exit e => R e.st
  | .readBuf _ onErr cont => (∀ r, R (onErr r).st) ∧ ∀ bs, ExitsSat R (cont bs)

theorem ExitsSat.run {R : DecSt → Prop} (p : DP) (h : ExitsSat R p) (limit n : Nat) (s : SpecSt) (e : ErrExit)
    (hr : (runSpecD limit p n s).1 = .inl e) : R e.st := by
  induction p generalizing n s with
  | done x => simp [runSpecD] at hr
  | exit e' => simp only [runSpecD] at hr; cases hr; exact h
  | readBuf k onErr cont ih =>
    rw [runSpecD_readBuf] at hr
    split at hr
    · exact ih _ (h.2 _) _ _ hr
    · cases hr
      exact h.1 _

theorem ExitsSat.mono {R R' : DecSt → Prop} {p : DP} (h : ExitsSat R p) (hR : ∀ st, R st → R' st) : ExitsSat R' p := by
  induction p with
  | done x => trivial
  | exit e => exact hR _ h
  | readBuf k onErr cont ih => exact ⟨fun r => hR _ (h.1 r), fun bs => ih bs (h.2 bs)⟩

theorem exitsKeep_iff {F : Option FileSt × Globals} {p : DP} : ExitsKeep F p ↔ ExitsSat (fun st => st.fileOf = F) p := by
  induction p with
  | done x => exact Iff.rfl
  | exit e => exact Iff.rfl
  | readBuf k onErr cont ih => exact and_congr Iff.rfl (forall_congr' ih)

theorem trivialSat (p : DP) : ExitsSat (fun _ => True) p := by
  induction p with
  | done x => trivial
  | exit e => trivial
  | readBuf k onErr cont ih => exact ⟨fun _ => trivial, ih⟩

theorem rd_reads {a st : DecSt} {k : Nat} {c : Bytes → DecSt → DP} (hst : Reads a st)
    (hc : ∀ bs st', Reads a st' → ExitsSat (Reads a) (c bs st')) : ExitsSat (Reads a) (rd st k c) :=
  ⟨fun _ => hst, fun bs => hc bs _ (hst.eat _ _)⟩

theorem parseFields_reads {a : DecSt} {P : Profile} {dm : DefMsg} {known : Bool} {fds : List FieldDef}
    {m : Option Msg} {st : DecSt} {c : Option Msg → DecSt → DP} (hst : Reads a st)
    (hc : ∀ m st', Reads a st' → ExitsSat (Reads a) (c m st')) : ExitsSat (Reads a) (parseFields P dm known fds m st c) := by
  induction fds generalizing m st with
  | nil => exact hc m st hst
  | cons fd fds ih =>
    rw [parseFields_cons]
    apply rd_reads
    · unfold fieldBump
      split
      · exact hst.unkF _
      · exact hst
    · intro raw st2 h2
      split
      · exact h2
      · exact h2
      · exact ih (h2.ts _ _)

theorem skipDev_reads {a : DecSt} {ds : List DevDesc} {st : DecSt} {c : DecSt → DP} (hst : Reads a st)
    (hc : ∀ st', Reads a st' → ExitsSat (Reads a) (c st')) : ExitsSat (Reads a) (skipDev ds st c) := by
  induction ds generalizing st with
  | nil => exact hc st hst
  | cons d ds ih =>
    unfold skipDev
    exact rd_reads hst fun _ _ h2 => ih h2

theorem parseData_reads {a : DecSt} {P : Profile} {hb : Nat} {compressed : Bool} {st : DecSt}
    {c : Option Msg → DecSt → DP} (hst : Reads a st)
    (hc : ∀ m st', Reads a st' → ExitsSat (Reads a) (c m st')) : ExitsSat (Reads a) (parseData P hb compressed st c) := by
  rw [parseData_pre]
  cases hd : dataPre P hb compressed st with
  | stop b st' => cases b <;> exact hst.trans (dataPre_stop hd)
  | go dm m st' =>
    exact parseFields_reads (hst.trans (dataPre_go hd).reads) fun m _ h2 => skipDev_reads h2 fun st3 h3 => hc m st3 h3

theorem parseDefinition_reads {a : DecSt} {P : Profile} {hb : Nat} {st : DecSt}
    {c : DefMsg → DecSt → DP} (hst : Reads a st)
    (hc : ∀ dm st', Reads a st' → ExitsSat (Reads a) (c dm st')) : ExitsSat (Reads a) (parseDefinition P hb st c) :=
  parseDefinition_cases P hb c st (fun _ st' => Reads a st') (fun _ p => ExitsSat (Reads a) p) hst
    (fun _ _ _ _ hI prem => ⟨fun _ => hI, fun raw => prem raw (hI.eat _ _)⟩)
    (fun _ _ _ hI => hI) (fun _ st' dm hI _ => hc dm st' hI)

theorem recordBody_reads {a : DecSt} {P : Profile} {st : DecSt} {K : DecSt → DP} (hst : Reads a st)
    (hK : ∀ st', ExitsSat (Reads a) (K st')) : ExitsSat (Reads a) (recordBody P st K) := by
  refine rd_reads hst fun hbs st1 h1 => ?_
  have addK : ∀ (m : Option Msg) (st' : DecSt), Reads a st' → ExitsSat (Reads a) (addThen P K m st') := by
    intro m st' h'
    unfold addThen
    cases addMsg P m st' with
    | none => exact h'
    | some _ => exact hK _
  unfold recordAfter
  split
  · exact parseData_reads h1 addK
  · split
    · exact parseDefinition_reads h1 fun _ _ _ => hK _
    · exact parseData_reads h1 addK

theorem oneRecord_reads (P : Profile) (limit : Nat) (st : DecSt) : ExitsSat (Reads st) (oneRecord P limit st) := by
  by_cases h : st.n < limit
  · rw [oneRecord_eq P h]
    exact recordBody_reads .refl fun _ => trivial
  · unfold oneRecord
    rw [decodeFileData_done P limit 1 st _ h]
    trivial

theorem Reads.fileOf {a b : DecSt} (h : Reads a b) : b.fileOf = a.fileOf := Prod.ext h.kept.file h.kept.glob

theorem oneRecord_keep (P : Profile) (limit : Nat) (st : DecSt) : ExitsKeep st.fileOf (oneRecord P limit st) :=
  exitsKeep_iff.2 ((oneRecord_reads P limit st).mono fun _ h => h.fileOf)

/-- **A record cut short.** If the stream ends (or the reader fails) inside a record — any strict
    prefix of the record's bytes is all there is — the loop stops with an early exit carrying the
    File exactly as it was before that record (and standing in `R` to the record's first state). -/
theorem cut_record (P : Profile) (limit fuel : Nat) (cont : DecSt → DP) (st : DecSt) (it : Item) (hok : ItemOK st it)
    (n : Nat) (hn : st.n = n) (hl : n + (serializeItem it).length ≤ limit) (s : SpecSt) (j : Nat)
    (hj : j < (serializeItem it).length) (hs : s.rest = (serializeItem it).take j)
    (R : DecSt → DecSt → Prop := fun _ _ => True)
    (hR : ∀ limit st, ExitsSat (R st) (oneRecord P limit st) := by intros; exact trivialSat _) :
    ∃ e, (runSpecD limit (decodeFileData P limit (fuel + 1) st cont) n s).1 = .inl e ∧ e.st.fileOf = st.fileOf ∧ R st e.st := by
  rw [loop_step, runSpecD_bind]
  obtain ⟨o, j', hj', _, hr⟩ := runSpecD_shape limit (oneRecord P limit st) n s
  rw [hr]
  cases o with
  | inl e =>
    exact ⟨e, rfl, ((oneRecord_reads P limit st).run _ limit n s e (by rw [hr])).fileOf,
      (hR limit st).run _ limit n s e (by rw [hr])⟩
  | inr x =>
    -- the record would have been read from fewer bytes than it has
    exfalso
    have hext := runSpecD_extend limit (oneRecord P limit st) n s ((serializeItem it).drop j) x (by rw [hr])
    have hrest : (s.extend ((serializeItem it).drop j)).rest = serializeItem it ++ [] := by
      simp only [SpecSt.extend, hs, List.take_append_drop, List.append_nil]
    have hitem := run_item P limit 0 (fun st => .done st) st n (s.extend ((serializeItem it).drop j)) [] it hok hrest hl hn
    rw [show decodeFileData P limit (0 + 1) st (fun st => .done st) = oneRecord P limit st from rfl, hext, hr] at hitem
    have hlen : s.rest.length = j := by
      rw [hs, List.length_take]; omega
    cases hst : stepItem P st it with
    | ok st' =>
      rw [hst] at hitem
      -- the byte counters: the run ate the whole record, the stream had only `j` bytes
      have := congrArg (fun r => r.2.1) hitem
      simp only [decodeFileData, runSpecD] at this
      omega
    | stop o =>
      rw [hst] at hitem
      obtain ⟨e, he, _⟩ := hitem
      cases he

theorem ItemsFit.split {P : Profile} {st : DecSt} {a : List Item} {it : Item} {b : List Item}
    (h : ItemsFit P st (a ++ it :: b)) :
    ItemsFit P st a ∧ ∀ st1, stepItems P st a = .ok st1 → ItemOK st1 it := by
  induction a generalizing st with
  | nil =>
    refine ⟨trivial, ?_⟩
    intro st1 h1
    simp only [stepItems] at h1
    cases h1
    exact h.1
  | cons x xs ih =>
    obtain ⟨hx, hrest⟩ := h
    refine ⟨⟨hx, fun st' hs => (ih (hrest st' hs)).1⟩, ?_⟩
    intro st1 h1
    simp only [stepItems] at h1
    cases hs : stepItem P st x with
    | ok st' =>
      rw [hs] at h1
      exact (ih (hrest st' hs)).2 st1 h1
    | stop o => rw [hs] at h1; cases h1

/-- **The partial File of a cut stream.** The record loop, run on the bytes of complete records
    `done` followed by a strict prefix of the next record's bytes (and then the end of the stream,
    or a reader error), stops with an early exit that carries the File as the complete records left
    it: exactly the messages that were complete before the cut. -/
theorem cut_items (P : Profile) (limit fuel : Nat) (cont : DecSt → DP) (done : List Item) (it : Item) (more : List Item)
    (st : DecSt) (n : Nat) (s : SpecSt) (j : Nat)
    (hfit : ItemsFit P st (done ++ it :: more)) (hj : j < (serializeItem it).length)
    (hs : s.rest = serialize done ++ (serializeItem it).take j)
    (hl : n + (serialize done).length + (serializeItem it).length ≤ limit) (hn : st.n = n)
    (st1 : DecSt) (h1 : stepItems P st done = .ok st1)
    (R : DecSt → DecSt → Prop := fun _ _ => True)
    (hR : ∀ limit st, ExitsSat (R st) (oneRecord P limit st) := by intros; exact trivialSat _) :
    ∃ e, (runSpecD limit (decodeFileData P limit (fuel + 1 + done.length) st cont) n s).1 = .inl e ∧
      e.st.fileOf = st1.fileOf ∧ R st1 e.st := by
  obtain ⟨hfd, hok⟩ := hfit.split
  have hrun := run_items P limit cont done (fuel + 1) st n s ((serializeItem it).take j) hfd hs (by omega) hn
  rw [h1] at hrun
  obtain ⟨hrun, hn1⟩ := hrun
  rw [hrun]
  exact cut_record P limit fuel cont st1 it (hok st1 h1) _ hn1 (by omega) _ j hj rfl R hR

end Fit
