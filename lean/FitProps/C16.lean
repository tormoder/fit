import FitProps.C16Core
import FitProps.C16Cut
import FitProps.C16Opts
/-!
  C16 — decode options only add information; unknown-item counts are exact.
-/
