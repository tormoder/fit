import FitProofs.ExpandRecord
import FitProofs.Routing
/-!
  C18, last sentence: the accumulated distance of the records of a file is the running sum of the
  rollover-corrected deltas of the raw 12-bit values (as the generated code extracts them), starting
  from the accumulator the decoder found.
-/
namespace Fit

/-- the raw distance value the generated code extracts from compressed_speed_distance (the second
    shift is evaluated in uint8: finding D10), `none` if the field is absent or all 0xFF -/
def csdRaw (pm : PMsg) (m : Msg) : Option Nat :=
  match pm.idx "CompressedSpeedDistance" with
  | some ci =>
    match m.vals[ci]? with
    | some (.us (some [b0, b1, b2])) =>
      if b0 ≠ 0xFF ∨ b1 ≠ 0xFF ∨ b2 ≠ 0xFF then some ((b1 >>> 4) ||| ((b2 <<< 4) % 256)) else none
    | _ => none
  | none => none

/-- the distance accumulator in force: the package-level one if it exists, else a fresh 12-bit one -/
def effDist (g : Globals) : Accu := if g.dist.present then g.dist else Accu.new 12

-- (for these two `rfl` alone does not return: it starts on the arithmetic of the new value)
theorem Accu.accumulate_present (a : Accu) (v : Nat) : (Accu.accumulate a v).1.present = a.present := by
  show ({ a with value := _, last := v } : Accu).present = a.present
  rfl
theorem Accu.accumulate_mask (a : Accu) (v : Nat) : (Accu.accumulate a v).1.mask = a.mask := by
  show ({ a with value := _, last := v } : Accu).mask = a.mask
  rfl
theorem Accu.accumulate_last (a : Accu) (v : Nat) : (Accu.accumulate a v).1.last = v := rfl
theorem Accu.accumulate_value (a : Accu) (v : Nat) : (Accu.accumulate a v).1.value = (Accu.accumulate a v).2 := rfl

theorem effDist_present (g : Globals) : (effDist g).present = true := by
  unfold effDist; split
  · assumption
  · rfl

theorem effDist_of_present {g : Globals} (h : g.dist.present = true) : effDist g = g.dist := if_pos h

theorem effDist_mask (g : Globals) (hmask : g.dist.present = true → g.dist.mask = 2 ^ 12 - 1) :
    (effDist g).mask = 2 ^ 12 - 1 := by
  unfold effDist
  split
  · exact hmask ‹_›
  · rfl

theorem expandCycles_dist (pm : PMsg) (m : Msg) (g : Globals) : (expandCycles pm m g).2.dist = g.dist :=
  onValid_elim (p := fun r : Msg × Globals => r.2.dist = g.dist) rfl fun _ _ _ => rfl

theorem expandPower_dist (pm : PMsg) (m : Msg) (g : Globals) : (expandPower pm m g).2.dist = g.dist :=
  onValid_elim (p := fun r : Msg × Globals => r.2.dist = g.dist) rfl fun _ _ _ => rfl

theorem expandCsd_dist {pm : PMsg} (m : Msg) (g : Globals) {ci si di : Nat}
    (hc : pm.idx "CompressedSpeedDistance" = some ci) (hs : pm.idx "Speed" = some si) (hd : pm.idx "Distance" = some di)
    (hlen : di < m.vals.length) :
    (∀ d, csdRaw pm m = some d → (expandCsd pm m g).2.dist = ((effDist g).accumulate d).1 ∧
      (expandCsd pm m g).1.vals[di]? = some (.u ((effDist g).accumulate d).2)) ∧
    (csdRaw pm m = none → (expandCsd pm m g).2.dist = g.dist ∧ (expandCsd pm m g).1.vals[di]? = m.vals[di]?) := by
  unfold expandCsd csdRaw effDist
  rw [hc, hs, hd]
  dsimp only
  split
  · rename_i b0 b1 b2 hv
    simp only [hv]
    split
    · refine ⟨fun d e => ?_, nofun⟩
      cases e
      refine ⟨rfl, ?_⟩
      show (setAt (setAt m.vals si _) di _)[di]? = _
      exact getElem?_setAt_self _ _ _ (by rw [length_setAt]; exact hlen)
    · exact ⟨nofun, fun _ => ⟨rfl, rfl⟩⟩
  · rename_i hno
    refine ⟨nofun, fun _ => ?_⟩
    split
    · exact (hno _ _ _ ‹_›).elim
    · exact ⟨rfl, rfl⟩

theorem csdRaw_congr {pm : PMsg} {m m' : Msg} (h : ∀ ci, pm.idx "CompressedSpeedDistance" = some ci → m'.vals[ci]? = m.vals[ci]?) :
    csdRaw pm m' = csdRaw pm m := by
  unfold csdRaw
  cases hc : pm.idx "CompressedSpeedDistance" with
  | none => rfl
  | some ci => simp only; rw [h ci hc]

structure DistNames (pm : PMsg) (ci si di : Nat) : Prop where
  csd : pm.idx "CompressedSpeedDistance" = some ci
  speed : pm.idx "Speed" = some si
  dist : pm.idx "Distance" = some di

theorem expandRecord_dist {pm : PMsg} (m : Msg) (g : Globals) {ci si di : Nat} (hn : DistNames pm ci si di)
    (hlen : di < m.vals.length) :
    (∀ d, csdRaw pm m = some d → (expandRecord pm m g).2.dist = ((effDist g).accumulate d).1 ∧
      (expandRecord pm m g).1.vals[di]? = some (.u ((effDist g).accumulate d).2)) ∧
    (csdRaw pm m = none → (expandRecord pm m g).2.dist = g.dist ∧ (expandRecord pm m g).1.vals[di]? = m.vals[di]?) := by
  unfold expandRecord
  dsimp only
  -- the two 16-bit copies touch neither the source bytes nor the distance field
  have s2 := (copyIfValid_sets pm m "Altitude" "EnhancedAltitude" 0xFFFF).trans
    (copyIfValid_sets pm _ "Speed" "EnhancedSpeed" 0xFFFF)
  generalize (copyIfValid pm (copyIfValid pm m "Altitude" "EnhancedAltitude" 0xFFFF) "Speed" "EnhancedSpeed" 0xFFFF) = m2 at s2 ⊢
  have hdi := s2.vals hn.dist (by decide)
  have hcsd := expandCsd_dist m2 g hn.csd hn.speed hn.dist (s2.length ▸ hlen)
  rw [csdRaw_congr fun c hc => Option.some.inj (hn.csd.symm.trans hc) ▸ s2.vals hn.csd (by decide), hdi] at hcsd
  -- cycles and power touch neither the distance accumulator nor the distance field
  rw [expandPower_dist, expandCycles_dist,
    ((expandCycles_sets pm _ _).trans (expandPower_sets pm _ _)).vals hn.dist (by decide)]
  exact hcsd

/-- how the distance field of the records of a file relates to the accumulator the decoder found:
    `a` is the accumulator in force, `ms` the records as decoded, `ms'` what the File holds -/
def DistRun (pm : PMsg) (di : Nat) : Accu → List Msg → List Msg → Prop
  | _, [], [] => True
  | a, m :: ms, m' :: ms' =>
    match csdRaw pm m with
    | some d => m'.vals[di]? = some (.u (a.accumulate d).2) ∧ DistRun pm di (a.accumulate d).1 ms ms'
    | none => m'.vals[di]? = m.vals[di]? ∧ DistRun pm di a ms ms'
  | _, _, _ => False

theorem expandMsg_record {P : Profile} {pm : PMsg} (hpm : P.msg? mnRecord = some pm) {m : Msg} (g : Globals)
    (hm : m.num = mnRecord) : expandMsg P m g = expandRecord pm m g := by
  unfold expandMsg
  rw [if_pos (by rw [hm]; decide), expand_record (hm ▸ hpm) hm]

/-- Over a list of records, expanded one after another: the distance fields are the run of the accumulator
    over the raw values, starting from the one the decoder found (`di < m.vals.length`: `setAt` past the end
    stores nothing) -/
theorem expandList_dist (P : Profile) (pm : PMsg) (hpm : P.msg? mnRecord = some pm) (ci si di : Nat)
    (hn : DistNames pm ci si di) (ms : List Msg) (hms : ∀ m ∈ ms, m.num = mnRecord ∧ di < m.vals.length) (g : Globals) :
    DistRun pm di (effDist g) ms (expandList P g ms).1 := by
  induction ms generalizing g with
  | nil => simp [expandList, DistRun]
  | cons m ms ih =>
    obtain ⟨hnum, hlen⟩ := hms m (List.mem_cons_self ..)
    have hrest : ∀ x ∈ ms, x.num = mnRecord ∧ di < x.vals.length := fun x hx => hms x (List.mem_cons_of_mem _ hx)
    simp only [expandList, DistRun]
    rw [expandMsg_record hpm g hnum]
    have hrun := ih hrest (expandRecord pm m g).2
    cases hraw : csdRaw pm m with
    | some d =>
      obtain ⟨e1, e2⟩ := (expandRecord_dist m g hn hlen).1 d hraw
      -- the accumulator that was used is present afterwards, so it is the one in force for the rest
      rw [effDist_of_present (by rw [e1, Accu.accumulate_present]; exact effDist_present g), e1] at hrun
      exact ⟨e2, hrun⟩
    | none =>
      obtain ⟨e1, e2⟩ := (expandRecord_dist m g hn hlen).2 hraw
      unfold effDist at hrun ⊢
      rw [e1] at hrun
      exact ⟨e2, hrun⟩

/-- rollover-corrected deltas of successive raw values of a `bits`-bit counter (`+ 2 ^ 32`: the uint32
    subtraction in `accumulate`) -/
def deltas (bits : Nat) (last : Nat) : List Nat → List Nat
  | [] => []
  | d :: r => ((d + 2 ^ 32 - last) % 2 ^ bits) :: deltas bits d r

/-- running sums on top of a start value -/
def prefixSums : Nat → List Nat → List Nat
  | _, [] => []
  | s, x :: r => (s + x) :: prefixSums (s + x) r

/-- what an accumulator reports for successive raw values -/
def accValues (a : Accu) : List Nat → List Nat
  | [] => []
  | d :: r => (a.accumulate d).2 :: accValues (a.accumulate d).1 r

theorem Accu.accumulate_step (bits : Nat) (a : Accu) (v : Nat) (hm : a.mask = 2 ^ bits - 1) (hb : bits ≤ 32) :
    (a.accumulate v).2 = (a.value + (v + 2 ^ 32 - a.last) % 2 ^ bits) % 2 ^ 32 := by
  unfold Accu.accumulate
  simp only [hm, Nat.and_two_pow_sub_one_eq_mod]
  congr 2
  exact (Nat.mod_mod_of_dvd _ (Nat.pow_dvd_pow 2 hb))

theorem prefixSums_mod (s t : Nat) (xs : List Nat) (h : s % 2 ^ 32 = t % 2 ^ 32) :
    (prefixSums s xs).map (· % 2 ^ 32) = (prefixSums t xs).map (· % 2 ^ 32) := by
  induction xs generalizing s t with
  | nil => rfl
  | cons x r ih =>
    simp only [prefixSums, List.map_cons]
    have h2 : (s + x) % 2 ^ 32 = (t + x) % 2 ^ 32 := by
      rw [Nat.add_mod, h, ← Nat.add_mod]
    rw [h2, ih (s + x) (t + x) h2]

theorem accValues_closed (bits : Nat) (hb : bits ≤ 32) (a : Accu) (hm : a.mask = 2 ^ bits - 1) (ds : List Nat) :
    accValues a ds = (prefixSums a.value (deltas bits a.last ds)).map (· % 2 ^ 32) := by
  induction ds generalizing a with
  | nil => rfl
  | cons d r ih =>
    have s1 := Accu.accumulate_step bits a d hm hb
    have s2 := Accu.accumulate_last a d
    simp only [accValues, deltas, prefixSums, List.map_cons]
    rw [s1]
    congr 1
    have hm' : (a.accumulate d).1.mask = 2 ^ bits - 1 := by rw [Accu.accumulate_mask]; exact hm
    rw [ih (a.accumulate d).1 hm']
    rw [s2, Accu.accumulate_value, s1]
    exact prefixSums_mod _ _ _ (Nat.mod_mod _ _)

theorem DistRun_accValues {pm : PMsg} {di : Nat} {a : Accu} {ms ms' : List Msg} {ds : List Nat}
    (hraw : ms.map (csdRaw pm) = ds.map some) (h : DistRun pm di a ms ms') :
    ms'.map (fun m => m.vals[di]?) = (accValues a ds).map fun v => some (Val.u v) := by
  induction ms generalizing a ms' ds with
  | nil =>
    cases ms' with
    | nil => cases ds with
      | nil => rfl
      | cons d r => simp at hraw
    | cons x xs => exact h.elim
  | cons m ms ih =>
    cases ms' with
    | nil => exact h.elim
    | cons m' ms' =>
      cases ds with
      | nil => simp at hraw
      | cons d r =>
        obtain ⟨h1, h2⟩ := List.cons.inj hraw
        simp only [DistRun, h1] at h
        simp only [List.map_cons, accValues, h.1]
        exact congrArg _ (ih h2 h.2)

/-- **C18, accumulated distance**, for any profile: the distance fields of a file's records, each
    carrying compressed_speed_distance, are the running sums, modulo 2^32, of the 12-bit
    rollover-corrected deltas of the raw values `ds`, on top of the accumulator in force. -/
theorem record_distance_running_sum (P : Profile) (pm : PMsg) (hpm : P.msg? mnRecord = some pm) (ci si di : Nat)
    (hn : DistNames pm ci si di) (ms : List Msg) (hms : ∀ m ∈ ms, m.num = mnRecord ∧ di < m.vals.length)
    (ds : List Nat) (hraw : ms.map (csdRaw pm) = ds.map some) (g : Globals)
    (hmask : g.dist.present = true → g.dist.mask = 2 ^ 12 - 1) :
    (expandList P g ms).1.map (fun m => m.vals[di]?) =
      ((prefixSums (effDist g).value (deltas 12 (effDist g).last ds)).map (· % 2 ^ 32)).map fun v => some (Val.u v) := by
  have hrun := expandList_dist P pm hpm ci si di hn ms hms g
  rw [DistRun_accValues hraw hrun, accValues_closed 12 (by omega) (effDist g) (effDist_mask g hmask) ds]

/-- the hypothesis on the accumulator's mask is an invariant: the decoder only ever creates the
    distance accumulator with 12 bits, and accumulating keeps the mask -/
theorem expandRecord_mask (pm : PMsg) (m : Msg) (g : Globals) (ci si di : Nat) (hn : DistNames pm ci si di)
    (hlen : di < m.vals.length) (hmask : g.dist.present = true → g.dist.mask = 2 ^ 12 - 1) :
    (expandRecord pm m g).2.dist.present = true → (expandRecord pm m g).2.dist.mask = 2 ^ 12 - 1 := by
  cases hraw : csdRaw pm m with
  | some d =>
    rw [((expandRecord_dist m g hn hlen).1 d hraw).1, Accu.accumulate_mask]
    exact fun _ => effDist_mask g hmask
  | none =>
    rw [((expandRecord_dist m g hn hlen).2 hraw).1]
    exact hmask

/-- D11 at the level of a run: mask 0 is what `new(uint32Accumulator)` gives total_cycles and accumulated_power -/
theorem accValues_mask_zero (a : Accu) (hm : a.mask = 0) (hv : a.value < 2 ^ 32) (ds : List Nat) :
    accValues a ds = ds.map fun _ => a.value := by
  induction ds generalizing a with
  | nil => rfl
  | cons d r ih =>
    have e : (Accu.accumulate a d).2 = a.value := by
      unfold Accu.accumulate
      simp only [hm, Nat.and_zero, Nat.add_zero]
      exact Nat.mod_eq_of_lt hv
    have hm' : (Accu.accumulate a d).1.mask = 0 := by rw [Accu.accumulate_mask]; exact hm
    have hv' : (Accu.accumulate a d).1.value = a.value := by rw [Accu.accumulate_value, e]
    simp only [accValues, List.map_cons, e]
    congr 1
    rw [ih _ hm' (by rw [hv']; exact hv), hv']

end Fit
