import FitModel.Items
import FitProofs.Crc
import FitProofs.Codec
/-
  The three header layouts a FIT reader accepts, and a whole frame under each of them.
-/
namespace Fit
open Fit.Crc

inductive HdrKind
  | noCrc     -- 12 bytes
  | zeroCrc   -- 14 bytes, CRC field 0 ("not computed")
  | withCrc   -- 14 bytes, CRC of the first 12
deriving DecidableEq, Repr

def HdrKind.size : HdrKind → Nat
  | .noCrc => 12
  | _ => 14

theorem HdrKind.size_cases (k : HdrKind) : k.size = 12 ∨ k.size = 14 := by cases k <;> simp [HdrKind.size]

def hdr12 (k : HdrKind) (proto profile len : Nat) : Bytes :=
  [u8 k.size, u8 proto] ++ natLE 2 profile ++ natLE 4 len ++ fitTag

def hdrExtra (k : HdrKind) (proto profile len : Nat) : Bytes :=
  match k with
  | .noCrc => []
  | .zeroCrc => [0, 0]
  | .withCrc => [lo (checksum (hdr12 .withCrc proto profile len)), hi (checksum (hdr12 .withCrc proto profile len))]

def frameHdr (k : HdrKind) (proto profile len : Nat) : Bytes :=
  hdr12 k proto profile len ++ hdrExtra k proto profile len

/-- header of any of the three kinds + record bytes + file CRC (over header and records) -/
def frameBytesK (k : HdrKind) (proto profile : Nat) (records : Bytes) : Bytes :=
  frameHdr k proto profile records.length ++ records ++
    [lo (checksum (frameHdr k proto profile records.length ++ records)),
     hi (checksum (frameHdr k proto profile records.length ++ records))]

/-- the model's `frameBytes` (Items.lean; used by the driver and the examples) is the `withCrc` kind -/
theorem frameBytes_eq (proto profile : Nat) (records : Bytes) :
    frameBytes proto profile records = frameBytesK .withCrc proto profile records := by
  simp [frameBytes, frameBytesK, frameHdr, hdr12, hdrExtra, HdrKind.size, u8]

/-- the kind of header `Encode` writes for a File whose header says `size` -/
def kindOfSize (size : Nat) : HdrKind := if size = headerSizeCRC then .withCrc else .noCrc

theorem kindOfSize_size (size : Nat) (h : size = headerSizeNoCRC ∨ size = headerSizeCRC) : (kindOfSize size).size = size := by
  rcases h with h | h <;> subst h <;> rfl

end Fit
