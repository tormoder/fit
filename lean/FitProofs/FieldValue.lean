import FitProofs.BaseType
import FitProofs.Codec
import FitProofs.ListLemmas
import FitModel.Decode
/-
  The field level of the decoder, characterised once: what `validateFieldDef` demands, what
  `parseFitField` / `parseFitFieldArray` compute in terms of the base-type tables, and `applyField`
  as "look the field up, find its struct position, store its `fieldValue`".
-/
namespace Fit

structure ScalarFits (fd : FieldDef) (t : Nat) : Prop where
  le : fd.size ≤ Base.size (tcBase t)
  signed : Base.signed (tcBase t) = Base.signed fd.btype
  float : Base.isFloat fd.btype = true → Base.isFloat (tcBase t) = true
  nostr : tcBase t ≠ Base.string

/-- what `validateFieldDef` demands of a definition for a listed profile field of type code `t` -/
def DefFits (fd : FieldDef) (t : Nat) : Prop :=
  if fd.btype = Base.string then tcBase t = Base.string
  else if tcArray t then fd.size % Base.size fd.btype = 0 ∧ fd.btype = tcBase t
  else ScalarFits fd t

theorem validateFieldDef_iff (P : Profile) (g : Nat) (fd : FieldDef) :
    validateFieldDef P g fd = true ↔
      Base.known fd.btype = true ∧ (fd.btype ≠ Base.string → Base.size fd.btype ≤ fd.size) ∧
      ∀ p, P.known g = true → P.getField g fd.num = some p → DefFits fd p.tcode := by
  -- by cases on the tests of the definition, in its order; for a scalar `fd.size > size` is
  -- `ScalarFits.le` and the three tests under `btype ≠ pb` are `.signed`, `.float`, `.nostr`
  have hlook : ∀ p, (P.known g = true → P.getField g fd.num = some p → DefFits fd p.tcode) ↔
      ((if P.known g = true then P.getField g fd.num else none) = some p → DefFits fd p.tcode) := by
    intro p; by_cases h : P.known g = true <;> simp [h]
  have hsc : ∀ t, ScalarFits fd t ↔ fd.size ≤ Base.size (tcBase t) ∧ Base.signed (tcBase t) = Base.signed fd.btype ∧
      (Base.isFloat fd.btype = true → Base.isFloat (tcBase t) = true) ∧ tcBase t ≠ Base.string :=
    fun t => ⟨fun h => ⟨h.le, h.signed, h.float, h.nostr⟩, fun h => ⟨h.1, h.2.1, h.2.2.1, h.2.2.2⟩⟩
  simp only [hlook]
  unfold validateFieldDef DefFits
  simp only [hsc]
  generalize (if P.known g = true then P.getField g fd.num else none) = pf
  cases hk : Base.known fd.btype
  · simp
  · simp only [Bool.not_true, Bool.false_eq_true, ↓reduceIte, true_and]
    by_cases hs : fd.btype = Base.string
    · cases pf <;> simp [hs]
    · simp only [hs, ↓reduceIte, ne_eq, not_false_eq_true, true_implies]
      by_cases hsz : fd.size < Base.size fd.btype
      · simp only [hsz, ↓reduceIte, Bool.false_eq_true, false_iff, not_and]
        intro h; omega
      · have hsz' : Base.size fd.btype ≤ fd.size := by omega
        simp only [hsz, ↓reduceIte, hsz', true_and]
        cases pf with
        | none => simp
        | some p =>
          simp only [Option.some.injEq, forall_eq']
          cases ha : tcArray p.tcode
          · simp only [Bool.not_false, ↓reduceIte, Bool.false_eq_true]
            by_cases hsz2 : fd.size > Base.size (tcBase p.tcode)
            · simp only [hsz2, ↓reduceIte, Bool.false_eq_true, false_iff]
              intro h; omega
            · have hsz2' : fd.size ≤ Base.size (tcBase p.tcode) := by omega
              simp only [hsz2, ↓reduceIte, hsz2', true_and]
              by_cases hne : fd.btype = tcBase p.tcode
              · simp [← hne, hs]
              · simp only [hne, not_false_eq_true, ↓reduceIte, and_true]
                by_cases hsg : Base.signed (tcBase p.tcode) = Base.signed fd.btype
                · cases hfl : Base.isFloat fd.btype <;> cases hfp : Base.isFloat (tcBase p.tcode) <;>
                    by_cases hps : tcBase p.tcode = Base.string <;> simp [*]
                · simp [hsg]
          · simp only [Bool.not_true, Bool.false_eq_true, ↓reduceIte]
            by_cases hm : fd.size % Base.size fd.btype = 0 <;> by_cases hne : fd.btype = tcBase p.tcode <;> simp [*]

theorem DefFits.array {fd : FieldDef} {t : Nat} (h : DefFits fd t) (ha : tcArray t = true) : fd.btype = tcBase t := by
  unfold DefFits at h
  by_cases hs : fd.btype = Base.string
  · rw [if_pos hs] at h; rw [h, hs]
  · rw [if_neg hs, if_pos ha] at h; exact h.2

theorem DefFits.scalar {fd : FieldDef} {t : Nat} (h : DefFits fd t) (ha : tcArray t = false)
    (hs : fd.btype ≠ Base.string) : ScalarFits fd t := by
  unfold DefFits at h
  rw [if_neg hs, ha] at h
  exact h

theorem DefFits.string {fd : FieldDef} {t : Nat} (h : DefFits fd t) (hs : fd.btype = Base.string) :
    tcBase t = Base.string := by
  unfold DefFits at h
  rw [if_pos hs] at h
  exact h

theorem DefFits.of_cases {fd : FieldDef} {t : Nat} (hs : fd.btype = Base.string → tcBase t = Base.string)
    (ha : fd.btype ≠ Base.string → tcArray t = true → fd.size % Base.size fd.btype = 0 ∧ fd.btype = tcBase t)
    (hsc : fd.btype ≠ Base.string → tcArray t = false → ScalarFits fd t) : DefFits fd t := by
  unfold DefFits
  split
  · exact hs ‹_›
  · split
    · exact ha ‹_› ‹_›
    · exact hsc ‹_› (by simpa using ‹¬tcArray t = true›)

/-- the base types `parseFitField` has a case for -/
def Base.parsed : List Nat :=
  [Base.byte, Base.enum, Base.uint8, Base.uint8z, Base.sint8, Base.sint16, Base.uint16, Base.uint16z,
   Base.sint32, Base.uint32, Base.uint32z, Base.float32, Base.float64, Base.string]

theorem listed_parsed {b : Nat} (h : b ∈ listedBases) : b ∈ Base.parsed := by
  simp only [listedBases, Base.parsed, List.mem_cons, List.mem_nil_iff, or_false] at h ⊢
  rcases h with h | h | h | h | h | h | h | h | h | h | h | h <;> simp [h]

/-- a failed reflection `Set…` is a panic -/
def FieldRes.ofSet : Option Val → FieldRes
  | some v => .ok (some v)
  | none => .panic

theorem FieldRes.ofSet_inv {o : Option Val} {v : Val} (h : FieldRes.ofSet o = .ok (some v)) : o = some v := by
  cases o with
  | none => cases h
  | some w => cases h; rfl

theorem FieldRes.ofSet_ne_err (o : Option Val) : FieldRes.ofSet o ≠ .err := by cases o <;> nofun

theorem dec_take_one (arch : Endian) (x : UInt8) (xs : Bytes) : arch.dec ((x :: xs).take 1) = x.toNat := by
  cases arch <;> simp [Endian.dec, leNat, beNat]

theorem parseFitField_eq {arch : Endian} {fd : FieldDef} {k : SlotKind} {tmp : Bytes}
    (hp : fd.btype ∈ Base.parsed) :
    parseFitField arch fd k tmp =
      if fd.btype = Base.string then
        (if (tmp.takeWhile (· != 0)).isEmpty then .ok none
         else match k with
          | .sc .s => .ok (some (.s (tmp.takeWhile (· != 0))))
          | _ => .panic)
      else if tmp.length < Base.size fd.btype then .panic
      else .ofSet (
        if Base.isFloat fd.btype then setFloat k (arch.dec (tmp.take (Base.size fd.btype)))
        else if Base.signed fd.btype then
          setInt k (toSigned (8 * Base.size fd.btype) (arch.dec (tmp.take (Base.size fd.btype))))
        else setUint k (arch.dec (tmp.take (Base.size fd.btype)))) := by
  -- the one-byte cases read `tmp[0]` directly
  have one : ∀ (f : Nat → Option Val),
      (if tmp.isEmpty then FieldRes.panic else .ofSet (f (tmp.headD 0).toNat)) =
      (if tmp.length < 1 then FieldRes.panic else .ofSet (f (arch.dec (tmp.take 1)))) := by
    intro f
    cases tmp with
    | nil => rfl
    | cons x xs => rw [dec_take_one]; rfl
  unfold parseFitField
  generalize fd.btype = b at hp ⊢
  simp only [Base.parsed, List.mem_cons, List.mem_nil_iff, or_false] at hp
  -- for each listed constant both sides compute
  rcases hp with h | h | h | h | h | h | h | h | h | h | h | h | h | h <;> subst h
  · exact one (setUint k)
  · exact one (setUint k)
  · exact one (setUint k)
  · exact one (setUint k)
  · exact one (fun x => setInt k (toSigned 8 x))
  all_goals rfl

theorem parseFitField_err {arch : Endian} {fd : FieldDef} {k : SlotKind} {tmp : Bytes}
    (hp : fd.btype ∉ Base.parsed) : parseFitField arch fd k tmp = .err := by
  simp only [Base.parsed, List.mem_cons, List.mem_nil_iff, or_false, not_or] at hp
  simp only [parseFitField, hp, or_self, ↓reduceIte]

theorem parseFitField_ne_err {arch : Endian} {fd : FieldDef} {k : SlotKind} {tmp : Bytes}
    (hp : fd.btype ∈ Base.parsed) : parseFitField arch fd k tmp ≠ .err := by
  rw [parseFitField_eq hp]
  split
  · split
    · nofun
    · split <;> nofun
  · split
    · nofun
    · exact FieldRes.ofSet_ne_err _

/-- the slice `parseFitFieldArray` stores for element kind `ek`, from the elements that were set -/
def sliceOf (ek : Sc) (vs : List Val) : FieldRes :=
  match ek with
  | .u _ => .ok (some (.us (some (vs.filterMap fun v => match v with | .u n => some n | _ => none))))
  | .i _ => .ok (some (.is (some (vs.filterMap fun v => match v with | .i n => some n | _ => none))))
  | .f _ => .ok (some (.fs (some (vs.filterMap fun v => match v with | .f n => some n | _ => none))))
  | .s => .panic

/-- the element loop of `parseFitFieldArray`: every `w`-byte chunk is decoded and goes through
    `set`; a failed `set` is a panic -/
def arrayOf (arch : Endian) (ek : Sc) (w : Nat) (tmp : Bytes) (set : Nat → Option Val) : FieldRes :=
  match (chunks w tmp tmp.length).mapM (fun e => set (arch.dec e)) with
  | some vs => sliceOf ek vs
  | none => .panic

theorem arrayOf_total {arch : Endian} {ek : Sc} {w : Nat} {tmp : Bytes} {set : Nat → Option Val} {g : Nat → Val}
    (hset : ∀ x, set x = some (g x)) :
    arrayOf arch ek w tmp set = sliceOf ek ((chunks w tmp tmp.length).map fun e => g (arch.dec e)) := by
  unfold arrayOf
  rw [mapM_eq_some_map (g := fun e => g (arch.dec e)) fun e _ => hset _]

theorem parseFitFieldArray_eq {arch : Endian} {fd : FieldDef} {k : SlotKind} {tmp : Bytes}
    (hp : fd.btype ∈ Base.parsed) :
    parseFitFieldArray arch fd k tmp =
      if fd.btype = Base.byte then
        (match k with
          | .sl (.u 8) => .ok (some (.us (some (tmp.map (·.toNat)))))
          | _ => .panic)
      else match k with
        | .sl ek =>
          if fd.btype = Base.string then
            (if fd.size = 0 then .ok none
             else match ek with
              | .s => .ok (some (.ss (if (splitStrings tmp).isEmpty then none else some (splitStrings tmp))))
              | _ => .panic)
          else arrayOf arch ek (Base.size fd.btype) tmp
            (if Base.isFloat fd.btype then setFloat (.sc ek)
             else if Base.signed fd.btype then fun x => setInt (.sc ek) x else setUint (.sc ek))
        | _ => .panic := by
  unfold parseFitFieldArray
  generalize fd.btype = b at hp ⊢
  simp only [Base.parsed, List.mem_cons, List.mem_nil_iff, or_false] at hp
  rcases hp with h | h | h | h | h | h | h | h | h | h | h | h | h | h <;> subst h
  all_goals rfl

theorem parseFitFieldArray_err {arch : Endian} {fd : FieldDef} {k : SlotKind} {tmp : Bytes}
    (hp : fd.btype ∉ Base.parsed) :
    parseFitFieldArray arch fd k tmp =
      match k with
      | .sl _ => if Base.size fd.btype = 0 then .panic else .err
      | _ => .panic := by
  simp only [Base.parsed, List.mem_cons, List.mem_nil_iff, or_false, not_or] at hp
  simp only [parseFitFieldArray, hp, or_self, ↓reduceIte]
  cases k <;> rfl

theorem parseFitFieldArray_ne_err {arch : Endian} {fd : FieldDef} {k : SlotKind} {tmp : Bytes}
    (hp : fd.btype ∈ Base.parsed) : parseFitFieldArray arch fd k tmp ≠ .err := by
  rw [parseFitFieldArray_eq hp]
  split
  · split <;> nofun
  · split
    · split
      · split
        · nofun
        · split <;> nofun
      · unfold arrayOf sliceOf
        split
        · split <;> nofun
        · nofun
    · nofun

theorem padTmp_length (arch : Endian) (btype : Nat) (raw : Bytes) (dsize psize : Nat)
    (hr : raw.length = dsize) (h1 : 0 < dsize) (h2 : dsize ≤ psize) :
    (padTmp arch btype raw dsize psize).length = psize := by
  unfold padTmp
  split
  · cases arch <;> simp <;> omega
  · omega

theorem padTmp_take (arch : Endian) (btype : Nat) (raw : Bytes) (dsize psize : Nat)
    (hr : raw.length = dsize) (h1 : 0 < dsize) (h2 : dsize ≤ psize) :
    (padTmp arch btype raw dsize psize).take psize = padTmp arch btype raw dsize psize :=
  List.take_of_length_le (Nat.le_of_eq (padTmp_length arch btype raw dsize psize hr h1 h2))

theorem padTmp_eq_self (arch : Endian) (btype : Nat) (raw : Bytes) {dsize psize : Nat} (h : ¬ dsize < psize) :
    padTmp arch btype raw dsize psize = raw := by
  unfold padTmp
  rw [if_neg fun hc => h hc.1]

theorem lsbFirst_padTmp (arch : Endian) (b : Nat) (raw : Bytes) (d p : Nat) :
    arch.lsbFirst (padTmp arch b raw d p) = arch.lsbFirst raw ++
      if d < p ∧ 0 < d then List.replicate (p - d)
        (if Base.signed b ∧ Base.integer b ∧ ((arch.lsbFirst raw).getLastD 0).toNat ≥ 128 then 0xFF else 0)
      else [] := by
  unfold padTmp
  split
  · cases arch
    · rfl
    · -- the only content: `raw.headD 0` is the last byte of `raw.reverse`
      simp only [Endian.lsbFirst, List.reverse_append, List.reverse_replicate]
      cases raw <;> simp
  · rw [List.append_nil]

/-- zero extension -/
theorem dec_padTmp_unsigned (arch : Endian) (b : Nat) (raw : Bytes) (d p : Nat)
    (h : (Base.signed b && Base.integer b) = false) (hr : raw.length = d) (h0 : 0 < d) (hp : d ≤ p) :
    arch.dec ((padTmp arch b raw d p).take p) = arch.dec raw := by
  rw [padTmp_take arch b raw d p hr h0 hp]
  have hf : ¬ (Base.signed b = true ∧ Base.integer b = true ∧ ((arch.lsbFirst raw).getLastD 0).toNat ≥ 128) :=
    fun hc => by rw [hc.1, hc.2.1] at h; cases h
  rw [arch.dec_eq, arch.dec_eq, lsbFirst_padTmp, if_neg hf, leNat_append]
  split
  · rw [leNat_replicate_zero, Nat.mul_zero, Nat.add_zero]
  · rfl

/-- sign extension: lsb first, the bytes read then the fill (`lsbFirst_padTmp`), all ones iff the top bit is set -/
theorem toSigned_dec_padTmp (arch : Endian) (b : Nat) (raw : Bytes) (d p : Nat)
    (hs : Base.signed b = true) (hi : Base.integer b = true) (hr : raw.length = d) (h0 : 0 < d) (hp : d ≤ p) :
    toSigned (8 * p) (arch.dec ((padTmp arch b raw d p).take p)) = toSigned (8 * d) (arch.dec raw) := by
  rw [padTmp_take arch b raw d p hr h0 hp]
  have hne : arch.lsbFirst raw ≠ [] := fun e => by
    have := arch.lsbFirst_length raw; rw [e, hr, List.length_nil] at this; omega
  have hmsb := leNat_msb _ hne
  have hv := leNat_lt (arch.lsbFirst raw)
  rw [arch.dec_eq, arch.dec_eq, lsbFirst_padTmp, leNat_append]
  rw [arch.lsbFirst_length, hr] at hmsb hv ⊢
  generalize leNat (arch.lsbFirst raw) = v at hmsb hv ⊢
  have hA := pow256_half d h0
  have hB := pow256_half p (by omega)
  have hle : 256 ^ d ≤ 256 ^ p := Nat.pow_le_pow_right (by decide) hp
  -- what the fill adds to the number
  have hfill : 256 ^ d * leNat (if d < p ∧ 0 < d then List.replicate (p - d)
        (if Base.signed b = true ∧ Base.integer b = true ∧ ((arch.lsbFirst raw).getLastD 0).toNat ≥ 128 then 0xFF else 0)
      else []) = if 256 ^ d ≤ 2 * v then 256 ^ p - 256 ^ d else 0 := by
    by_cases hlt : d < p
    · have hM : 256 ^ d * 256 ^ (p - d) = 256 ^ p := by rw [← Nat.pow_add]; congr 1; omega
      simp only [hlt, h0, hs, hi, hmsb, and_self, true_and, ↓reduceIte]
      split
      · rw [show leNat (List.replicate (p - d) 0xFF) = 256 ^ (p - d) - 1 from by have := leNat_replicate_ff (p - d); omega,
          Nat.mul_sub, hM, Nat.mul_one]
      · rw [leNat_replicate_zero, Nat.mul_zero]
    · have hdp : d = p := by omega
      simp only [hdp, Nat.lt_irrefl, false_and, ↓reduceIte, leNat, Nat.mul_zero, Nat.sub_self, ite_self]
  rw [hfill]
  unfold toSigned
  simp only [pow256] at hv hA hB hle ⊢
  generalize 2 ^ (8 * d) = A at *
  generalize 2 ^ (8 * p) = B at *
  -- top bit set: the fill adds B − A, and v + (B − A) − B = v − A; else nothing is added
  by_cases hneg : A ≤ 2 * v
  · rw [if_pos hneg, Nat.mod_eq_of_lt (show v + (B - A) < B by omega), Nat.mod_eq_of_lt hv, if_neg (by omega), if_neg (by omega)]
    omega
  · rw [if_neg hneg, Nat.add_zero, Nat.mod_eq_of_lt (show v < B by omega), Nat.mod_eq_of_lt hv, if_pos (by omega), if_pos (by omega)]

theorem parseTimeStamp_utc (ts : TsRef) (pf : PField) (v : Nat) (hk : tcKind pf.tcode = .timeUTC) (hv : v ≠ 0xFFFFFFFF) :
    parseTimeStamp ts pf v =
      (some (.t v 0 0), if pf.num = fieldNumTimeStamp then { timestamp := v, lastOff := v % 32 } else ts) := by
  unfold parseTimeStamp
  rw [if_neg hv, if_pos hk]

theorem parseTimeStamp_invalid (ts : TsRef) (pf : PField) : parseTimeStamp ts pf 0xFFFFFFFF = (none, ts) := by
  rw [parseTimeStamp, if_pos rfl]

theorem parseTimeStamp_local (ts : TsRef) (pf : PField) (v : Nat) (hk : tcKind pf.tcode ≠ .timeUTC) (hv : v ≠ 0xFFFFFFFF) :
    parseTimeStamp ts pf v =
      (some (if ts.timestamp = 0 ∨ ts.timestamp < systemTimeMarker then .t v 0 1
        else .t ts.timestamp ((v : Int) - ts.timestamp) 1), ts) := by
  unfold parseTimeStamp
  rw [if_neg hv, if_neg hk]
  split <;> rfl

/-- what `applyField` makes of the scratch buffer `tmp`, by kind of profile field -/
def tmpValue (dm : DefMsg) (fd : FieldDef) (pf : PField) (k : SlotKind) (tmp : Bytes) (ts : TsRef) :
    FieldRes × TsRef :=
  match tcKind pf.tcode with
  | .native =>
    (if !tcArray pf.tcode then parseFitField dm.arch fd k (tmp.take fd.size)
     else parseFitFieldArray dm.arch fd k (tmp.take fd.size), ts)
  | .timeUTC | .timeLocal =>
    if tmp.length < 4 then (.panic, ts)
    else
      let r := parseTimeStamp ts pf (dm.arch.dec (tmp.take 4))
      if r.1.isSome ∧ k ≠ .time then (.panic, ts) else (.ok r.1, r.2)
  | .lat =>
    if tmp.length < 4 then (.panic, ts)
    else if k ≠ .lat then (.panic, ts)
    else
      let s := toSigned 32 (dm.arch.dec (tmp.take 4))
      (.ok (some (.lat (if s = 0x7FFFFFFF then 0x7FFFFFFF
        else if s < -1073741824 ∨ s > 1073741823 then 0x7FFFFFFF else s))), ts)
  | .lng =>
    if tmp.length < 4 then (.panic, ts)
    else if k ≠ .lng then (.panic, ts)
    else (.ok (some (.lng (toSigned 32 (dm.arch.dec (tmp.take 4))))), ts)
  | .unknown _ => (.panic, ts)

/-- What a listed field contributes: the value `applyField` stores at the field's struct position
    (`.ok none`: the position is left alone) and the timestamp reference afterwards.  It does not
    depend on the message under construction.  Only time and coordinate fields are widened to the
    profile size; a native field is read from the bytes as they came. -/
def fieldValue (dm : DefMsg) (fd : FieldDef) (pf : PField) (k : SlotKind) (raw : Bytes) (ts : TsRef) :
    FieldRes × TsRef :=
  tmpValue dm fd pf k
    (if tcBase pf.tcode ≠ Base.string ∧ !tcArray pf.tcode ∧ tcKind pf.tcode ≠ .native then
      padTmp dm.arch fd.btype raw fd.size (Base.size (tcBase pf.tcode))
    else raw) ts

theorem tmpValue_time {dm : DefMsg} {fd : FieldDef} {pf : PField} {k : SlotKind} {tmp : Bytes} {ts : TsRef}
    (hk : tcKind pf.tcode = .timeUTC ∨ tcKind pf.tcode = .timeLocal) (h4 : 4 ≤ tmp.length) :
    tmpValue dm fd pf k tmp ts =
      if (parseTimeStamp ts pf (dm.arch.dec (tmp.take 4))).1.isSome ∧ k ≠ .time then (.panic, ts)
      else ((.ok (parseTimeStamp ts pf (dm.arch.dec (tmp.take 4))).1, (parseTimeStamp ts pf (dm.arch.dec (tmp.take 4))).2)) := by
  unfold tmpValue
  rcases hk with hk | hk <;> simp only [hk, Nat.not_lt.mpr h4, ↓reduceIte]

theorem tmpValue_lat {dm : DefMsg} {fd : FieldDef} {pf : PField} {k : SlotKind} {tmp : Bytes} {ts : TsRef}
    (hk : tcKind pf.tcode = .lat) (h4 : 4 ≤ tmp.length) :
    tmpValue dm fd pf k tmp ts =
      if k ≠ .lat then (.panic, ts)
      else (.ok (some (.lat (if toSigned 32 (dm.arch.dec (tmp.take 4)) = 0x7FFFFFFF then 0x7FFFFFFF
        else if toSigned 32 (dm.arch.dec (tmp.take 4)) < -1073741824 ∨ toSigned 32 (dm.arch.dec (tmp.take 4)) > 1073741823
        then 0x7FFFFFFF else toSigned 32 (dm.arch.dec (tmp.take 4))))), ts) := by
  unfold tmpValue
  simp only [hk, Nat.not_lt.mpr h4, ↓reduceIte]

theorem tmpValue_lng {dm : DefMsg} {fd : FieldDef} {pf : PField} {k : SlotKind} {tmp : Bytes} {ts : TsRef}
    (hk : tcKind pf.tcode = .lng) (h4 : 4 ≤ tmp.length) :
    tmpValue dm fd pf k tmp ts =
      if k ≠ .lng then (.panic, ts) else (.ok (some (.lng (toSigned 32 (dm.arch.dec (tmp.take 4))))), ts) := by
  unfold tmpValue
  simp only [hk, Nat.not_lt.mpr h4, ↓reduceIte]

theorem fieldValue_native {dm : DefMsg} {fd : FieldDef} {pf : PField} {k : SlotKind} {raw : Bytes} {ts : TsRef}
    (hk : tcKind pf.tcode = .native) :
    fieldValue dm fd pf k raw ts =
      (if !tcArray pf.tcode then parseFitField dm.arch fd k (raw.take fd.size)
       else parseFitFieldArray dm.arch fd k (raw.take fd.size), ts) := by
  simp only [fieldValue, tmpValue, hk, ne_eq, not_true_eq_false, and_false, ↓reduceIte]

/-- a time or coordinate field (`hf` is what `FieldFacts.fixed` gives) -/
theorem fieldValue_fixed {dm : DefMsg} {fd : FieldDef} {pf : PField} {k : SlotKind} {raw : Bytes} {ts : TsRef}
    (hk : tcKind pf.tcode ≠ .native)
    (hf : tcBase pf.tcode ≠ Base.string ∧ tcArray pf.tcode = false ∧ Base.size (tcBase pf.tcode) = 4) :
    fieldValue dm fd pf k raw ts = tmpValue dm fd pf k (padTmp dm.arch fd.btype raw fd.size 4) ts := by
  unfold fieldValue
  rw [if_pos ⟨hf.1, by rw [hf.2.1]; rfl, hk⟩, hf.2.2]

/-- `.err` is the decoder's "unknown base type" error: it comes from the two parsers only -/
theorem fieldValue_ne_err {dm : DefMsg} {fd : FieldDef} {pf : PField} {k : SlotKind} {raw : Bytes} {ts : TsRef}
    (hp : fd.btype ∈ Base.parsed) : (fieldValue dm fd pf k raw ts).1 ≠ .err := by
  unfold fieldValue tmpValue
  cases tcKind pf.tcode with
  | native =>
    dsimp only
    split
    · exact parseFitField_ne_err hp
    · exact parseFitFieldArray_ne_err hp
  | unknown _ => nofun
  | _ =>
    dsimp only
    repeat' split
    all_goals nofun

/-- `applyField`'s last step: keep the message, set position `i`, or pass `.err` / `.panic` on -/
def FieldRes.store (msg : Msg) (i : Nat) : FieldRes × TsRef → FieldsRes
  | (.ok none, ts) => .ok (some msg) ts
  | (.ok (some v), ts) => .ok (some { msg with vals := setAt msg.vals i v }) ts
  | (.err, _) => .err
  | (.panic, _) => .panic

/-- for case walks; clients use `applyField_listed` / `_unlisted` / `_not_known` / `_inv` / `_none` -/
theorem applyField_eq (P : Profile) (dm : DefMsg) (known : Bool) (fd : FieldDef) (raw : Bytes)
    (m : Option Msg) (ts : TsRef) :
    applyField P dm known fd raw m ts =
      match P.getField dm.global fd.num with
      | none => .ok m ts
      | some pf =>
        if known = false then .ok m ts
        else match m, P.msg? dm.global with
          | some msg, some pm =>
            match pm.layout[pf.sindex]? with
            | none => .panic
            | some k => FieldRes.store msg pf.sindex (fieldValue dm fd pf k raw ts)
          | _, _ => .panic := by
  unfold applyField
  cases P.getField dm.global fd.num with
  | none => rfl
  | some pf =>
    cases known with
    | false => rfl
    | true =>
      cases m with
      | none => rfl
      | some msg =>
        cases P.msg? dm.global with
        | none => rfl
        | some pm =>
          dsimp only
          cases pm.layout[pf.sindex]? with
          | none => rfl
          | some k =>
            simp only [Bool.not_true, Bool.false_eq_true, ↓reduceIte, reduceCtorEq]
            unfold fieldValue tmpValue
            generalize (if tcBase pf.tcode ≠ Base.string ∧ (!tcArray pf.tcode) = true ∧ tcKind pf.tcode ≠ .native then
              padTmp dm.arch fd.btype raw fd.size (Base.size (tcBase pf.tcode)) else raw) = tmp
            cases tcKind pf.tcode with
            | native =>
              dsimp only
              generalize (if (!tcArray pf.tcode) = true then parseFitField dm.arch fd k (tmp.take fd.size)
                else parseFitFieldArray dm.arch fd k (tmp.take fd.size)) = r
              cases r with
              | ok v => cases v <;> rfl
              | err => rfl
              | panic => rfl
            | timeUTC | timeLocal =>
              dsimp only
              split
              · rfl
              · generalize parseTimeStamp ts pf (dm.arch.dec (tmp.take 4)) = r
                obtain ⟨v, ts'⟩ := r
                dsimp only
                split
                · rfl
                · cases v <;> rfl
            | lat | lng =>
              dsimp only
              split
              · rfl
              · split <;> rfl
            | unknown n => rfl

theorem applyField_unlisted {P : Profile} {dm : DefMsg} {fd : FieldDef} (h : P.getField dm.global fd.num = none)
    (known : Bool) (raw : Bytes) (m : Option Msg) (ts : TsRef) : applyField P dm known fd raw m ts = .ok m ts := by
  rw [applyField_eq, h]

theorem applyField_not_known (P : Profile) (dm : DefMsg) (fd : FieldDef) (raw : Bytes) (m : Option Msg) (ts : TsRef) :
    applyField P dm false fd raw m ts = .ok m ts := by
  rw [applyField_eq]
  split <;> rfl

theorem applyField_listed {P : Profile} {dm : DefMsg} {fd : FieldDef} {pf : PField} {pm : PMsg} {k : SlotKind}
    (hf : P.getField dm.global fd.num = some pf) (hpm : P.msg? dm.global = some pm)
    (hk : pm.layout[pf.sindex]? = some k) (raw : Bytes) (msg : Msg) (ts : TsRef) :
    applyField P dm true fd raw (some msg) ts = FieldRes.store msg pf.sindex (fieldValue dm fd pf k raw ts) := by
  rw [applyField_eq, hf]
  simp only [hpm, hk, reduceCtorEq, ↓reduceIte]

theorem applyField_inv {P : Profile} {dm : DefMsg} {known : Bool} {fd : FieldDef} {raw : Bytes} {msg : Msg}
    {ts ts' : TsRef} {m' : Option Msg} (h : applyField P dm known fd raw (some msg) ts = .ok m' ts') :
    m' = some msg ∨ ∃ pf pm k v, P.getField dm.global fd.num = some pf ∧ P.msg? dm.global = some pm ∧
      pm.layout[pf.sindex]? = some k ∧ fieldValue dm fd pf k raw ts = (.ok (some v), ts') ∧
      m' = some { msg with vals := setAt msg.vals pf.sindex v } := by
  rw [applyField_eq] at h
  split at h
  · cases h; exact Or.inl rfl
  · rename_i pf hpf
    split at h
    · cases h; exact Or.inl rfl
    · split at h
      · rename_i msg0 pm hm hpm
        cases hm
        split at h
        · cases h
        · rename_i k hk
          generalize hr : fieldValue dm fd pf k raw ts = r at h
          obtain ⟨res, t⟩ := r
          cases res with
          | ok o =>
            cases o with
            | none => cases h; exact Or.inl rfl
            | some v => cases h; exact Or.inr ⟨pf, pm, k, v, hpf, hpm, hk, hr, rfl⟩
          | err => cases h
          | panic => cases h
      · cases h

theorem applyField_none {P : Profile} {dm : DefMsg} {known : Bool} {fd : FieldDef} {raw : Bytes} {ts ts' : TsRef}
    {m' : Option Msg} (h : applyField P dm known fd raw none ts = .ok m' ts') : m' = none := by
  rw [applyField_eq] at h
  split at h
  · cases h; rfl
  · split at h
    · cases h; rfl
    · cases h

end Fit
