import FitProofs.Consume
/-
  What a program of the data phase does when the next bytes are `bs`: stated once, so that a lemma
  about a parser mentions neither the data size, nor the counter, nor the stream.  And `DProg.bind`:
  a parser in continuation-passing style is its own run, then the continuation.
-/
namespace Fit

variable {ε β : Type}

theorem SpecSt.adv_of_rest {s : SpecSt} {bs tail : Bytes} (h : s.rest = bs ++ tail) :
    s.adv bs.length = { s with rest := tail, taken := s.taken + bs.length } := by
  unfold SpecSt.adv
  rw [h, List.drop_left' rfl]

/-- One relation for both ways a run over the next bytes `bs` can end (`.inr q`: all read, on as `q`; `.inl E`: an
    early exit satisfying `E`), so that sequencing is one lemma.  The failing case, too, assumes that the data size
    allows all of `bs`: otherwise the exit could be the size limit's, not the parser's. -/
def Goes (p : DProg ε β) (bs : Bytes) : (ε → Prop) ⊕ DProg ε β → Prop
  | .inr q => ∀ (limit n : Nat) (s : SpecSt) (tail : Bytes), s.rest = bs ++ tail → n + bs.length ≤ limit →
      runSpecD limit p n s =
        runSpecD limit q (n + bs.length) { s with rest := tail, taken := s.taken + bs.length }
  | .inl E => ∀ (limit n : Nat) (s : SpecSt) (tail : Bytes), s.rest = bs ++ tail → n + bs.length ≤ limit →
      ∃ e, (runSpecD limit p n s).1 = .inl e ∧ E e

abbrev Runs (p : DProg ε β) (bs : Bytes) (q : DProg ε β) : Prop := Goes p bs (.inr q)
abbrev Fails (p : DProg ε β) (bs : Bytes) (E : ε → Prop) : Prop := Goes p bs (.inl E)

theorem Runs.refl (p : DProg ε β) : Runs p [] p := by
  intro limit n s tail hs _
  cases s
  simp_all

theorem Runs.cast {p q q' : DProg ε β} {bs : Bytes} (h : Runs p bs q) (e : q = q') : Runs p bs q' := e ▸ h

theorem Fails.exit {E : ε → Prop} {e : ε} (h : E e) (bs : Bytes) : Fails (.exit e : DProg ε β) bs E :=
  fun _ _ _ _ _ _ => ⟨e, rfl, h⟩

theorem Fails.append {p : DProg ε β} {a : Bytes} {E : ε → Prop} (h : Fails p a E) (b : Bytes) : Fails p (a ++ b) E := by
  intro limit n s tail hs hl
  rw [List.append_assoc] at hs
  rw [List.length_append] at hl
  exact h limit n s _ hs (by omega)

theorem Runs.andThen {p q : DProg ε β} {a b : Bytes} {r : (ε → Prop) ⊕ DProg ε β} (h1 : Runs p a q) (h2 : Goes q b r) :
    Goes p (a ++ b) r := by
  cases r with
  | inr r =>
    intro limit n s tail hs hl
    rw [List.append_assoc] at hs
    rw [List.length_append] at hl
    rw [h1 limit n s (b ++ tail) hs (by omega), h2 limit _ _ tail rfl (by omega)]
    simp only [List.length_append, Nat.add_assoc]
  | inl E =>
    intro limit n s tail hs hl
    rw [List.append_assoc] at hs
    rw [List.length_append] at hl
    rw [h1 limit n s (b ++ tail) hs (by omega)]
    exact h2 limit _ _ tail rfl (by omega)

theorem Runs.readBuf {k : Nat} (onErr : RdStop → ε) (cont : Bytes → DProg ε β) (bs : Bytes)
    (hk : bs.length = k) : Runs (.readBuf k onErr cont) bs (cont bs) := by
  intro limit n s tail hs hl
  subst hk
  have h1 : bs.length ≤ limit - n ∧ bs.length ≤ s.rest.length := by
    rw [hs, List.length_append]; omega
  rw [runSpecD_readBuf, if_pos h1, SpecSt.adv_of_rest hs, hs, List.take_left' rfl]

def DProg.bind {ε β γ} : DProg ε β → (β → DProg ε γ) → DProg ε γ
  | .done x, k => k x
  | .exit e, _ => .exit e
  | .readBuf n onErr cont, k => .readBuf n onErr (fun bs => (cont bs).bind k)

theorem runSpecD_bind {ε β γ} (limit : Nat) (p : DProg ε β) (k : β → DProg ε γ) (n : Nat) (s : SpecSt) :
    runSpecD limit (p.bind k) n s =
      match runSpecD limit p n s with
      | (.inl e, n', s') => (.inl e, n', s')
      | (.inr x, n', s') => runSpecD limit (k x) n' s' := by
  induction p generalizing n s with
  | done x => rfl
  | exit e => rfl
  | readBuf m onErr cont ih =>
    simp only [DProg.bind, runSpecD_readBuf]
    split
    · exact ih _ _ _
    · rfl

end Fit
