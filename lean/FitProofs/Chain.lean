import FitProofs.Frame
import FitProofs.Refine
/-
  `decode` (buffered, on a reader) returns what `decodeSpec` (on the byte list) returns and after a
  success leaves the reader at the end of the frame; hence the buffered chain is the chain over the bytes.
-/
namespace Fit

theorem decodeSpec_consumes (P : Profile) (o : Opts) (m : Mode) (hm : m = .full ∨ m = .crcOnly) (g : Globals)
    (d : Bytes) (stop : Stop) (h : (decodeSpec P o m g d stop).1.success) :
    frameLen d ≤ d.length ∧ (decodeSpec P o m g d stop).2 =
      { rest := d.drop (frameLen d), stop := stop, taken := frameLen d, frameEnd := frameLen d - 2 } := by
  obtain ⟨hl, _, c⟩ := decodeProg_consumes_frame P m hm g _ (decodeSpec_success.1 h)
  rw [decodeSpec_eq, c]
  exact ⟨hl, by simp only [SpecSt.adv, SpecSt.framed, Nat.zero_add]⟩

/-- `Reader.After` is relative: the list run counts from 0 wherever the reader stands -/
theorem decode_refines (P : Profile) (o : Opts) (m : Mode) (g : Globals) (r : Reader) :
    (decode P o m g r).1 = (decodeSpec P o m g r.data r.stop).1 ∧
    ((m = .full ∨ m = .crcOnly) → (decode P o m g r).1.success → r.After (decode P o m g r).2 (frameLen r.data)) := by
  obtain ⟨j, fe, e, hr⟩ := run_refines_gen (decodeProg P m g) r { rest := r.data, stop := r.stop, taken := 0 } rfl rfl
  have eo : (decode P o m g r).1 = (decodeSpec P o m g r.data r.stop).1 := by rw [decode_eq, decodeSpec_eq, e]
  refine ⟨eo, fun hm h => ?_⟩
  have ⟨_, (h14 : 14 ≤ frameLen r.data), c⟩ := decodeProg_consumes_frame P m hm g _ (decodeSpec_success.1 (eo ▸ h))
  rw [e] at c
  have hj : j = frameLen r.data := Nat.add_left_cancel (congrArg SpecSt.taken c)
  have hfe : fe = 0 + frameLen r.data - 2 := congrArg SpecSt.frameEnd c
  rcases hr with hr | ⟨i, _, (hji : j ≤ i), (h3 : 0 + i ≤ fe)⟩
  · exact hj ▸ hr
  · omega  -- the reader would stand 2 bytes short of `j`

theorem decode_out_eq_spec (P : Profile) (o : Opts) (m : Mode) (g : Globals) (r : Reader) :
    (decode P o m g r).1 = (decodeSpec P o m g r.data r.stop).1 :=
  (decode_refines P o m g r).1

theorem decode_success_after (P : Profile) (o : Opts) (m : Mode) (hm : m = .full ∨ m = .crcOnly) (g : Globals)
    (r : Reader) (h : (decode P o m g r).1.success) : r.After (decode P o m g r).2 (frameLen r.data) :=
  (decode_refines P o m g r).2 hm h

/-- one decode's outcome in either chain: `stop` builds a result, `next` goes on -/
def chainTurn {ρ} (stop : List FileSt → Option ErrClass → Bool → ρ) (next : FileSt → ρ) (i : Nat) (acc : List FileSt)
    (out : Outcome) : ρ :=
  if out.panic then stop acc none true
  else match out.err with
    | some c =>
      if out.cleanEOF ∧ i ≠ 0 then stop acc none false
      else stop (match out.st.file with | some f => acc ++ [f] | none => acc) (some c) false
    | none =>
      match out.st.file with
      | some f => next f
      | none => stop acc none true

theorem decodeChained_step (P : Profile) (o : Opts) (fuel i : Nat) (acc : List FileSt) (g : Globals) (r : Reader) :
    decodeChained P o (fuel + 1) i acc g r =
      chainTurn (fun a e p => ⟨a, e, p, (decode P o .full g r).1.st.glob, (decode P o .full g r).2⟩)
        (fun f => decodeChained P o fuel (i + 1) (acc ++ [f]) (decode P o .full g r).1.st.glob (decode P o .full g r).2)
        i acc (decode P o .full g r).1 := rfl

theorem decodeChainedSpec_step (P : Profile) (o : Opts) (fuel i : Nat) (acc : List FileSt) (g : Globals) (d : Bytes)
    (stop : Stop) :
    decodeChainedSpec P o (fuel + 1) i acc g d stop =
      chainTurn (fun a e p => ⟨a, e, p, (decodeSpec P o .full g d stop).1.st.glob, (decodeSpec P o .full g d stop).2.rest⟩)
        (fun f => decodeChainedSpec P o fuel (i + 1) (acc ++ [f]) (decodeSpec P o .full g d stop).1.st.glob
          (decodeSpec P o .full g d stop).2.rest stop)
        i acc (decodeSpec P o .full g d stop).1 := rfl

section
variable {ρ : Type} {stop : List FileSt → Option ErrClass → Bool → ρ} {next : FileSt → ρ} {i : Nat} {acc : List FileSt}
  {out : Outcome}

theorem chainTurn_panic (hp : out.panic = true) : chainTurn stop next i acc out = stop acc none true := by
  simp only [chainTurn, hp, ↓reduceIte]

theorem chainTurn_err {c : ErrClass} (hp : out.panic = false) (he : out.err = some c) :
    chainTurn stop next i acc out =
      if out.cleanEOF = true ∧ i ≠ 0 then stop acc none false
      else stop (match out.st.file with | some f => acc ++ [f] | none => acc) (some c) false := by
  simp only [chainTurn, hp, he, Bool.false_eq_true, ↓reduceIte]

theorem chainTurn_success (hs : out.success) :
    chainTurn stop next i acc out = match out.st.file with | some f => next f | none => stop acc none true := by
  simp only [chainTurn, hs.1, hs.2, Bool.false_eq_true, ↓reduceIte]

theorem chainTurn_rel {σ : Type} {stop' : List FileSt → Option ErrClass → Bool → σ} {next' : FileSt → σ}
    (R : ρ → σ → Prop) (hstop : ∀ a e p, R (stop a e p) (stop' a e p))
    (hnext : ∀ f, out.success → out.st.file = some f → R (next f) (next' f)) :
    R (chainTurn stop next i acc out) (chainTurn stop' next' i acc out) := by
  cases hp : out.panic with
  | true => rw [chainTurn_panic hp, chainTurn_panic hp]; exact hstop ..
  | false =>
    cases he : out.err with
    | some c => rw [chainTurn_err hp he, chainTurn_err hp he]; split <;> exact hstop ..
    | none =>
      rw [chainTurn_success ⟨he, hp⟩, chainTurn_success ⟨he, hp⟩]
      cases hf : out.st.file with
      | none => exact hstop ..
      | some f => exact hnext f ⟨he, hp⟩ hf
end

theorem chained_eq_spec (P : Profile) (o : Opts) (fuel i : Nat) (acc : List FileSt) (g : Globals) (r : Reader) :
    (decodeChained P o fuel i acc g r).files = (decodeChainedSpec P o fuel i acc g r.data r.stop).files ∧
    (decodeChained P o fuel i acc g r).err = (decodeChainedSpec P o fuel i acc g r.data r.stop).err ∧
    (decodeChained P o fuel i acc g r).panic = (decodeChainedSpec P o fuel i acc g r.data r.stop).panic ∧
    (decodeChained P o fuel i acc g r).glob = (decodeChainedSpec P o fuel i acc g r.data r.stop).glob := by
  induction fuel generalizing i acc g r with
  | zero => exact ⟨rfl, rfl, rfl, rfl⟩
  | succ fuel ih =>
    obtain ⟨e, hafter⟩ := decode_refines P o .full g r
    rw [decodeChained_step, decodeChainedSpec_step, ← e]
    refine chainTurn_rel (fun (a : ChainRes) (b : ChainSpecRes) => a.files = b.files ∧ a.err = b.err ∧ a.panic = b.panic ∧ a.glob = b.glob)
      (fun _ _ _ => ⟨rfl, rfl, rfl, rfl⟩) fun f hs _ => ?_
    -- the reader now holds what the list run has left: the hypothesis fits
    have ha := hafter (.inl rfl) hs
    rw [(decodeSpec_consumes P o .full (.inl rfl) g r.data r.stop (e ▸ hs)).2, ← ha.data, ← ha.stop]
    exact ih ..
theorem decodeSpec_cleanEOF (P : Profile) (o : Opts) (m : Mode) (g : Globals) (d : Bytes) (stop : Stop)
    (h : (decodeSpec P o m g d stop).1.cleanEOF = true) : d = [] ∧ stop = .eof := by
  rw [decodeSpec_eq, (finalize_keeps o _).cleanEOF] at h
  exact cleanEOF_only_on_empty P m g _ h

end Fit
