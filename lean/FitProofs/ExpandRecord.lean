import FitProofs.ExpandEq
/-
  C18, record messages: the transcribed `expandRecord` (altitude, speed, compressed speed/distance,
  cycles, compressed accumulated power) is the generic interpretation of the profile's component
  rules with all three switches of `Quirks` on: `d10` is D10 (the distance half loses its top
  nibble), `d11c` and `d11p` are D11 (total_cycles and accumulated_power accumulate with mask 0).
-/
namespace Fit
open Fit.XSpec

def codeQuirks : Quirks := { d10 := true, d11c := true, d11p := true }

/-! The generated code assembles each 12-bit half of compressed_speed_distance from two bytes by
shifts, masks and `|`; the operands of every `|` occupy disjoint bit ranges, so it is a sum. -/

theorem or_shiftLeft_eq_add {x k : Nat} (h : x < 2 ^ k) (y : Nat) : x ||| y <<< k = x + y * 2 ^ k := by
  rw [Nat.or_comm, ← Nat.shiftLeft_add_eq_or_of_lt h, Nat.shiftLeft_eq, Nat.add_comm]

theorem csd_speed_bits (b0 b1 : Nat) (h0 : b0 < 256) :
    b0 ||| (b1 &&& 0x0F) <<< 8 = (b0 + 256 * b1) % 4096 := by
  rw [or_shiftLeft_eq_add (k := 8) h0, Nat.and_two_pow_sub_one_eq_mod b1 4]
  omega

/-- the `% 256`: Go evaluates `b2 << 4` in uint8 before widening (D10) -/
theorem csd_distance_bits (b1 b2 : Nat) (h1 : b1 < 256) :
    b1 >>> 4 ||| b2 <<< 4 % 256 = (b1 / 16 + 16 * b2) % 256 := by
  have e : b2 <<< 4 % 256 = (b2 % 16) <<< 4 := by
    rw [Nat.shiftLeft_eq, Nat.shiftLeft_eq]
    omega
  rw [e, Nat.shiftRight_eq_div_pow, or_shiftLeft_eq_add (k := 4) (by omega)]
  omega

theorem rule_csd {pm : PMsg} {m : Msg} {g : Globals} {ci si di : Nat}
    (hci : pm.idx "CompressedSpeedDistance" = some ci) (hsi : pm.idx "Speed" = some si)
    (hdi : pm.idx "Distance" = some di) (ht : SrcBytes m ci) :
    applyRules codeQuirks pm [⟨"CompressedSpeedDistance", 0xFF, [⟨"Speed", 12, false⟩, ⟨"Distance", 12, true⟩], []⟩] m g =
      expandCsd pm m g := by
  simp only [applyRules, List.isEmpty_nil, Bool.true_or, ↓reduceIte, hci]
  unfold expandCsd
  simp only [hci, hsi, hdi]
  unfold srcValue
  cases hv : m.vals[ci]? with
  | none => rfl
  | some v =>
    obtain ⟨o, rfl, hb⟩ := ht v hv
    cases o with
    | none => rfl
    | some bs =>
      match bs, hb with
      | [], _ => rfl
      | [_], _ => rfl
      | [_, _], _ => rfl
      | _ :: _ :: _ :: _ :: _, _ => rfl
      | [b0, b1, b2], hb =>
        have h0 : b0 < 256 := hb _ rfl b0 (by simp)
        have h1 : b1 < 256 := hb _ rfl b1 (by simp)
        by_cases hinv : b0 = 0xFF ∧ b1 = 0xFF ∧ b2 = 0xFF
        · simp only [hinv, and_self, ↓reduceIte, ne_eq, not_true_eq_false, or_self]
        · have hy : (b0 ≠ 0xFF ∨ b1 ≠ 0xFF ∨ b2 ≠ 0xFF) := by omega
          simp only [hinv, ↓reduceIte, hy]
          have e1 : (b0 + 256 * b1 + 65536 * b2) % 2 ^ 12 = (b0 ||| ((b1 &&& 0x0F) <<< 8)) := by
            rw [csd_speed_bits b0 b1 h0]
            omega
          have e2 : (b0 + 256 * b1 + 65536 * b2) / 2 ^ 12 % 2 ^ 12 % 256 = ((b1 >>> 4) ||| ((b2 <<< 4) % 256)) := by
            rw [csd_distance_bits b1 b2 h1]
            omega
          -- here D10's `% 256` and the rule's fresh 12-bit accumulator meet the code's
          simp only [applyComps, hsi, hdi, codeQuirks, e1, e2, accuOf, setAccu, and_self, ↓reduceIte,
            Bool.false_eq_true, String.reduceEq, and_false, or_self]

theorem expandCycles_eq (pm : PMsg) (m : Msg) (g : Globals) :
    expandCycles pm m g = onValid pm m "Cycles" "TotalCycles" 0xFF (m, g) fun ti c =>
      let r := (if g.cyc.present then g.cyc else Accu.zero).accumulate c
      (m.setU ti r.2, { g with cyc := r.1 }) := rfl

theorem expandPower_eq (pm : PMsg) (m : Msg) (g : Globals) :
    expandPower pm m g = onValid pm m "CompressedAccumulatedPower" "AccumulatedPower" 0xFFFF (m, g) fun ti c =>
      let r := (if g.pow.present then g.pow else Accu.zero).accumulate c
      (m.setU ti r.2, { g with pow := r.1 }) := rfl

/-- the kinds of value a record's component sources hold (what the decoder stores, or the constructor's
    invalid values); of `names` only the first three are used -/
structure RecordTyped (pm : PMsg) (m : Msg) : Prop where
  alt : ∀ i, pm.idx "Altitude" = some i → Src16 m i
  speed : ∀ i, pm.idx "Speed" = some i → Src16 m i
  names : (pm.idx "Speed").isSome ∧ (pm.idx "Distance").isSome ∧ (pm.idx "CompressedSpeedDistance").isSome ∧
    (pm.idx "Cycles").isSome ∧ (pm.idx "TotalCycles").isSome ∧ (pm.idx "CompressedAccumulatedPower").isSome ∧
    (pm.idx "AccumulatedPower").isSome
  csd : ∀ i, pm.idx "CompressedSpeedDistance" = some i → SrcBytes m i
  cycles : ∀ i, pm.idx "Cycles" = some i → SrcU 8 m i
  power : ∀ i, pm.idx "CompressedAccumulatedPower" = some i → SrcU 16 m i

theorem rule_cycles {pm : PMsg} {m : Msg} {g : Globals} (ht : ∀ i, pm.idx "Cycles" = some i → SrcU 8 m i) :
    applyRules codeQuirks pm [⟨"Cycles", 0xFF, [⟨"TotalCycles", 8, true⟩], []⟩] m g = expandCycles pm m g := by
  -- `accuOf`, `setAccu`, `freshAccu` at these names compute to `g.cyc`, `{ g with cyc := · }`, `Accu.zero`
  rw [rule_scalar ht]
  rfl

theorem rule_power {pm : PMsg} {m : Msg} {g : Globals}
    (ht : ∀ i, pm.idx "CompressedAccumulatedPower" = some i → SrcU 16 m i) :
    applyRules codeQuirks pm [⟨"CompressedAccumulatedPower", 0xFFFF, [⟨"AccumulatedPower", 16, true⟩], []⟩] m g =
      expandPower pm m g := by
  rw [rule_scalar ht]
  rfl

theorem expandCsd_sets (pm : PMsg) (m : Msg) (g : Globals) : Sets pm ["Speed", "Distance"] m (expandCsd pm m g).1 := by
  unfold expandCsd
  split
  · rename_i hsi hdi
    split
    · split
      · exact (Sets.refl.setU _ (by decide) hsi).setU _ (by decide) hdi
      · exact .refl
    · exact .refl
  · exact .refl

theorem expandCycles_sets (pm : PMsg) (m : Msg) (g : Globals) : Sets pm ["TotalCycles"] m (expandCycles pm m g).1 :=
  onValid_elim (p := fun r : Msg × Globals => Sets pm _ m r.1) .refl fun _ _ hti => Sets.refl.setU _ (List.mem_singleton_self _) hti

theorem expandPower_sets (pm : PMsg) (m : Msg) (g : Globals) : Sets pm ["AccumulatedPower"] m (expandPower pm m g).1 :=
  onValid_elim (p := fun r : Msg × Globals => Sets pm _ m r.1) .refl fun _ _ hti => Sets.refl.setU _ (List.mem_singleton_self _) hti

/-- **record**: the generic interpretation of the five component rules of record, with the
    deviations switched on, is the transcribed `expandRecord` -/
theorem record_eq (pm : PMsg) (m : Msg) (g : Globals) (h : RecordTyped pm m) :
    applyRules codeQuirks pm (rulesFor mnRecord) m g = expandRecord pm m g := by
  obtain ⟨hs, hd, hc, -⟩ := h.names
  obtain ⟨si, hsi⟩ := Option.isSome_iff_exists.mp hs
  obtain ⟨di, hdi⟩ := Option.isSome_iff_exists.mp hd
  obtain ⟨ci, hci⟩ := Option.isSome_iff_exists.mp hc
  unfold expandRecord
  simp only [rulesFor, ↓reduceIte]
  -- rule by rule; `s1 … s4` record what has been written so far, so that the next source is still as in `m`
  rw [applyRules_cons, rule_copy 16 h.alt]
  have s1 := copyIfValid_sets pm m "Altitude" "EnhancedAltitude" 0xFFFF
  generalize copyIfValid pm m "Altitude" "EnhancedAltitude" 0xFFFF = m1 at s1 ⊢
  rw [applyRules_cons, rule_copy 16 (s1.srcU (by decide) h.speed)]
  have s2 := s1.trans (copyIfValid_sets pm m1 "Speed" "EnhancedSpeed" 0xFFFF)
  generalize copyIfValid pm m1 "Speed" "EnhancedSpeed" 0xFFFF = m2 at s2 ⊢
  rw [applyRules_cons, rule_csd hci hsi hdi (fun v hv => h.csd ci hci v (s2.vals hci (by decide) ▸ hv))]
  have s3 := s2.trans (expandCsd_sets pm m2 g)
  generalize expandCsd pm m2 g = r3 at s3 ⊢
  rw [applyRules_cons, rule_cycles (s3.srcU (by decide) h.cycles)]
  have s4 := s3.trans (expandCycles_sets pm r3.1 r3.2)
  generalize expandCycles pm r3.1 r3.2 = r4 at s4 ⊢
  exact rule_power (s4.srcU (by decide) h.power)

end Fit
