import FitProofs.CrcTrack
import FitProofs.Chain
import FitModel.Gen.Profile
/-!
  C04 — corruption is detected: CRC verdicts are sound and agree across entry points.

  A burst is a non-zero XOR pattern inside a window of at most 16 consecutive bits *in the order
  the checksum consumes bits* (least-significant bit of each byte first); this includes every
  corruption confined to two adjacent bytes.
-/
namespace Fit.Props.C04
open Fit Fit.Crc

/-- the bit stream the checksum consumes -/
def bitsOf (d : Bytes) : List Bool := d.flatMap (fun b => byteBits b.toBitVec)

theorem specUpdate_bits (c : BitVec 16) (d : Bytes) : specUpdate c d = bitsStep c (bitsOf d) := by
  induction d generalizing c with
  | nil => rfl
  | cons x xs ih =>
    simp only [specUpdate, List.foldl_cons, bitsOf, List.flatMap_cons, bitsStep_append]
    exact ih _

theorem update_bits (c : BitVec 16) (d : Bytes) : update c d = bitsStep c (bitsOf d) := by
  rw [update_eq_specUpdate, specUpdate_bits]

theorem bitsOf_append (a b : Bytes) : bitsOf (a ++ b) = bitsOf a ++ bitsOf b := by
  simp [bitsOf, List.flatMap_append]

theorem bitsOf_length (d : Bytes) : (bitsOf d).length = 8 * d.length := by
  induction d with
  | nil => rfl
  | cons x xs ih =>
    have e : bitsOf (x :: xs) = byteBits x.toBitVec ++ bitsOf xs := by simp [bitsOf]
    rw [e, List.length_append, ih]
    simp [byteBits]; omega

/-- **Burst detection.**  Two byte strings whose checksum bit streams agree outside a window of
    at most 16 bits and differ inside it have different checksums, from any register state — in
    particular, if one has residue 0 (passes the integrity check) the other has not. -/
theorem burst_detected_bits (c : BitVec 16) (xs ys : Bytes) (pre w w' post : List Bool)
    (hx : bitsOf xs = pre ++ w ++ post) (hy : bitsOf ys = pre ++ w' ++ post)
    (hlen : w.length = w'.length) (h16 : w.length ≤ 16) (hne : w ≠ w') :
    update c xs ≠ update c ys := by
  rw [update_bits, update_bits, hx, hy]
  exact burst_changes_register c pre w w' post hlen h16 hne

theorem byteBits_injective (a b : BitVec 8) (h : byteBits a = byteBits b) : a = b := by
  simp only [byteBits, List.cons.injEq, and_true] at h
  ext i hi
  have : i = 0 ∨ i = 1 ∨ i = 2 ∨ i = 3 ∨ i = 4 ∨ i = 5 ∨ i = 6 ∨ i = 7 := by omega
  rcases this with rfl | rfl | rfl | rfl | rfl | rfl | rfl | rfl <;> simp_all [BitVec.getLsbD_eq_getElem]

theorem bitsOf_injective (a b : Bytes) (hl : a.length = b.length) (h : bitsOf a = bitsOf b) : a = b := by
  induction a generalizing b with
  | nil => cases b with
    | nil => rfl
    | cons _ _ => simp at hl
  | cons x xs ih =>
    cases b with
    | nil => simp at hl
    | cons y ys =>
      simp only [bitsOf, List.flatMap_cons] at h
      have h8 : (byteBits x.toBitVec).length = (byteBits y.toBitVec).length := by simp [byteBits]
      have := List.append_inj h h8
      have hxy : x = y := by
        have := byteBits_injective _ _ this.1
        exact UInt8.eq_of_toBitVec_eq this
      rw [hxy, ih ys (by simpa using hl) this.2]

/-- Any corruption confined to one or two adjacent bytes changes the checksum, wherever it is and
    whatever precedes and follows. -/
theorem burst_detected_bytes (c : BitVec 16) (pre w w' post : Bytes)
    (hlen : w.length = w'.length) (h2 : w.length ≤ 2) (hne : w ≠ w') :
    update c (pre ++ w ++ post) ≠ update c (pre ++ w' ++ post) := by
  apply burst_detected_bits c _ _ (bitsOf pre) (bitsOf w) (bitsOf w') (bitsOf post)
  · simp [bitsOf_append]
  · simp [bitsOf_append]
  · rw [bitsOf_length, bitsOf_length, hlen]
  · rw [bitsOf_length]; omega
  · intro h; exact hne (bitsOf_injective _ _ hlen h)

/-- a stream that passes the residue test (checksum of data ++ stored CRC = 0) fails it after any
    such burst -/
theorem residue_broken (xs ys : Bytes) (pre w w' post : List Bool)
    (hx : bitsOf xs = pre ++ w ++ post) (hy : bitsOf ys = pre ++ w' ++ post)
    (hlen : w.length = w'.length) (h16 : w.length ≤ 16) (hne : w ≠ w')
    (hok : checksum xs = 0#16) : checksum ys ≠ 0#16 := by
  intro h
  have := burst_detected_bits 0#16 xs ys pre w w' post hx hy hlen h16 hne
  exact this (hok.trans h.symm)

def accepts : Option ErrClass → Bool
  | none => true
  | some _ => false

def acceptsE {α β} : Except α β → Bool
  | .ok _ => true
  | .error _ => false

/-- the wire form: size byte, then the bytes `decodeHeader` reads next -/
def tail (h : Header) : Bytes :=
  [UInt8.ofNat h.proto] ++ natLE 2 h.profile ++ natLE 4 h.dataSize ++ h.dtype ++
    (if h.size = headerSizeNoCRC then [] else natLE 2 h.crc)

theorem marshal_eq (h : Header) : h.marshal = UInt8.ofNat h.size :: tail h := by
  simp [Header.marshal, Header.marshal.u8', tail]

theorem tail_head (h : Header) : ((tail h).headD 0) = UInt8.ofNat h.proto := by simp [tail]

theorem tail_tag (h : Header) (hd : h.dtype.length = 4) : ((tail h).drop 7).take 4 = h.dtype := by
  match hh : h.dtype, hd with
  | [a, b, c, d], _ => simp [tail, natLE, hh]

theorem tail_crc (h : Header) (hd : h.dtype.length = 4) (hs : h.size ≠ headerSizeNoCRC) :
    ((tail h).drop 11).take 2 = natLE 2 h.crc := by
  match hh : h.dtype, hd with
  | [a, b, c, d], _ => simp [tail, natLE, hh, hs]

theorem crc_of_parts (h : Header) : update (update 0#16 [UInt8.ofNat h.size]) (tail h) = checksum h.marshal := by
  rw [← update_append, marshal_eq]; rfl

/-- **Header.CheckIntegrity agrees with decodeHeader** on every header value with a legal size:
    both accept, or both reject, the 14 (12) bytes the value marshals to. -/
theorem header_crc_agreement (st : DecSt) (h : Header) (hst : st.crc = 0#16)
    (hs : h.size = headerSizeCRC ∨ h.size = headerSizeNoCRC)
    (hp : h.proto < 256) (hc : h.crc < 65536) (hdt : h.dtype.length = 4) :
    accepts h.checkIntegrity = acceptsE (headerCheck st [UInt8.ofNat h.size] (tail h)) := by
  have hsz : ([UInt8.ofNat h.size].headD 0).toNat = h.size :=
    u8_toNat _ (by rcases hs with hs | hs <;> rw [hs] <;> decide)
  have hpr : (UInt8.ofNat h.proto).toNat = h.proto := u8_toNat _ hp
  have hcr : leNat (natLE 2 h.crc) = h.crc := by
    rw [leNat_natLE]
    exact Nat.mod_eq_of_lt hc
  -- each side accepts exactly when: version supported, tag ".FIT", and no CRC field, a zero one or a matching one
  refine Bool.eq_iff_iff.2 (Iff.trans (b := h.proto / 16 ≤ protoMajorMax ∧ h.dtype = fitTag ∧
      (h.size = headerSizeNoCRC ∨ h.crc = 0 ∨ checksum h.marshal = 0#16)) ?_ (Iff.symm ?_))
  · unfold Header.checkIntegrity
    by_cases h1 : h.proto / 16 > protoMajorMax
    · rw [if_pos h1]; exact ⟨(fun h => nomatch h), fun h => absurd h.1 (Nat.not_le_of_gt h1)⟩
    rw [if_neg h1]
    by_cases h2 : h.dtype = fitTag
    · rw [if_neg (not_not_intro h2)]
      have h1' := Nat.le_of_not_gt h1
      rcases hs with hs | hs
      · rw [if_neg (by rw [hs]; decide), if_neg (not_not_intro hs)]
        have hne : ¬ h.size = headerSizeNoCRC := by rw [hs]; decide
        by_cases h3 : h.crc = 0
        · rw [if_pos h3]; exact ⟨fun _ => ⟨h1', h2, .inr (.inl h3)⟩, fun _ => rfl⟩
        · rw [if_neg h3]
          by_cases h4 : checksum h.marshal = 0#16
          · rw [if_neg (not_not_intro h4)]; exact ⟨fun _ => ⟨h1', h2, .inr (.inr h4)⟩, fun _ => rfl⟩
          · rw [if_pos h4]; exact ⟨(fun h => nomatch h), fun h => (h.2.2.elim hne (·.elim h3 h4)).elim⟩
      · rw [if_pos hs]; exact ⟨fun _ => ⟨h1', h2, .inl hs⟩, fun _ => rfl⟩
    · rw [if_pos h2]; exact ⟨(fun h => nomatch h), fun h => absurd h.2.1 h2⟩
  · have : ∀ e : Except (ErrClass × DecSt) DecSt, acceptsE e = true ↔ ∃ x, e = .ok x := fun e => by
      cases e <;> simp [acceptsE]
    rw [this]
    simp only [headerCheck_ok_iff, exists_and_left, exists_eq, and_true]
    rw [hsz, tail_head, hpr, tail_tag h hdt, hst, crc_of_parts h]
    rcases hs with hs | hs
    · rw [tail_crc h hdt (by rw [hs]; decide), hcr]
    · simp [hs]

/-- non-vacuity: a 14-byte header with a wrong non-zero CRC is rejected by both -/
example : accepts ({ size := 14, proto := 0x20, profile := 2115, dataSize := 0, dtype := fitTag, crc := 0x1234 } : Header).checkIntegrity = false := by
  decide +kernel

/-- **Accepted ⇒ residue zero.** Whatever `Decode` or `CheckIntegrity` accepts has a frame
    (header, data, stored CRC) whose CRC-16 is zero. -/
theorem accepted_residue_zero (P : Profile) (o : Opts) (m : Mode) (hm : m = .full ∨ m = .crcOnly)
    (g : Globals) (data : Bytes) (stop : Stop) (h : (decodeSpec P o m g data stop).1.success) :
    checksum (data.take (frameLen data)) = 0#16 :=
  decodeProg_success_residue P m hm g _ (decodeSpec_success.1 h)

/-- **A file that `Decode` accepts passes `CheckIntegrity`.** -/
theorem accepted_passes_integrity (P : Profile) (o o' : Opts) (g : Globals) (data : Bytes) (stop : Stop)
    (h : (decodeSpec P o .full g data stop).1.success) :
    (decodeSpec P o' .crcOnly g data stop).1.success :=
  decodeSpec_success.2 (full_success_integ_success P g _ (decodeSpec_success.1 h))

/-- **Burst ⇒ rejected, by both entry points.** Take any stream `good` that `Decode` or
    `CheckIntegrity` accepts. Corrupt its frame inside a window of at most 16 consecutive bits
    (bits in the order the checksum consumes them), leaving the header's size and data-size fields
    intact (so the declared frame length is unchanged); what follows the frame is arbitrary. Then
    neither `Decode` nor `CheckIntegrity` accepts the corrupted stream. -/
theorem burst_rejected (P : Profile) (o o' : Opts) (m m' : Mode) (hm : m = .full ∨ m = .crcOnly)
    (hm' : m' = .full ∨ m' = .crcOnly) (g g' : Globals) (good bad : Bytes) (stop stop' : Stop)
    (pre w w' post : List Bool)
    (hgood : (decodeSpec P o m g good stop).1.success)
    (hfl : frameLen bad = frameLen good)
    (hx : bitsOf (good.take (frameLen good)) = pre ++ w ++ post)
    (hy : bitsOf (bad.take (frameLen good)) = pre ++ w' ++ post)
    (hlen : w.length = w'.length) (h16 : w.length ≤ 16) (hne : w ≠ w') :
    ¬ (decodeSpec P o' m' g' bad stop').1.success := by
  intro hbad
  have h1 := accepted_residue_zero P o m hm g good stop hgood
  have h2 := accepted_residue_zero P o' m' hm' g' bad stop' hbad
  rw [hfl] at h2
  exact residue_broken _ _ pre w w' post hx hy hlen h16 hne h1 h2

/-- byte form: a corruption confined to two adjacent bytes `w → w'` anywhere in the frame -/
theorem burst_rejected_bytes (P : Profile) (o o' : Opts) (m m' : Mode) (hm : m = .full ∨ m = .crcOnly)
    (hm' : m' = .full ∨ m' = .crcOnly) (g g' : Globals) (pre w w' post tail tail' : Bytes) (stop stop' : Stop)
    (hgood : (decodeSpec P o m g (pre ++ w ++ post ++ tail) stop).1.success)
    (hframe : (pre ++ w ++ post).length = frameLen (pre ++ w ++ post ++ tail))
    (hfl : frameLen (pre ++ w' ++ post ++ tail') = frameLen (pre ++ w ++ post ++ tail))
    (hlen : w.length = w'.length) (h2 : w.length ≤ 2) (hne : w ≠ w') :
    ¬ (decodeSpec P o' m' g' (pre ++ w' ++ post ++ tail') stop').1.success := by
  intro hbad
  have h1 := accepted_residue_zero P o m hm g _ stop hgood
  have h3 := accepted_residue_zero P o' m' hm' g' _ stop' hbad
  rw [hfl] at h3
  rw [← hframe, List.take_left'] at h1
  have hl' : (pre ++ w' ++ post).length = (pre ++ w ++ post).length := by
    simp only [List.length_append]; omega
  rw [← hframe, ← hl', List.take_left'] at h3
  · exact burst_detected_bytes 0#16 pre w w' post hlen h2 hne (h1.trans h3.symm)
  · rfl
  · rfl

/-! ### the hypotheses are satisfiable (kernel-evaluated on the regenerated profile) -/

def minFile : Bytes := [12, 32, 67, 8, 11, 0, 0, 0, 46, 70, 73, 84, 64, 0, 0, 0, 0, 1, 0, 1, 0, 0, 4, 34, 103]
def minFileCorrupt : Bytes := [12, 32, 67, 8, 11, 0, 0, 0, 46, 70, 73, 84, 64, 0, 0, 0, 0, 1, 0, 1, 0, 0, 5, 34, 103]   -- byte 22 (the file type) changed from 4 to 5

set_option maxRecDepth 100000 in
/-- `minFile` is accepted by both entry points and its residue is zero; the corrupted copy declares
    the same frame and is rejected by both (as `burst_rejected_bytes` says it must) -/
example :
    (decodeSpec Fit.Gen.profile {} .full {} minFile .eof).1.success ∧
    (decodeSpec Fit.Gen.profile {} .crcOnly {} minFile .eof).1.success ∧
    checksum (minFile.take (frameLen minFile)) = 0#16 ∧
    frameLen minFileCorrupt = frameLen minFile ∧
    ¬ (decodeSpec Fit.Gen.profile {} .full {} minFileCorrupt .eof).1.success ∧
    ¬ (decodeSpec Fit.Gen.profile {} .crcOnly {} minFileCorrupt .eof).1.success := by
  decide +kernel

end Fit.Props.C04
