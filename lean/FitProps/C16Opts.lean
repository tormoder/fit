import FitModel.Options
import FitModel.Decode
/-!
C16, the option list itself: the record the decoder works with depends only on *which* options were
given — not on their order, not on repetitions — and an option never takes back what an earlier one
switched on.
-/
namespace Fit.Props.C16
open Fit

theorem foldl_apply1 (l : List DOpt) (o : Opts) :
    l.foldl Opts.apply1 o =
      { logger := o.logger || l.any DOpt.isLogger,
        unkFields := o.unkFields || l.contains .unkFields,
        unkMsgs := o.unkMsgs || l.contains .unkMsgs } := by
  induction l generalizing o with
  | nil => simp
  | cons x xs ih =>
    rw [List.foldl_cons, ih]
    cases x <;> simp [Opts.apply1, DOpt.isLogger]

theorem applyOpts_eq (l : List DOpt) :
    applyOpts l =
      { logger := l.any DOpt.isLogger, unkFields := l.contains .unkFields, unkMsgs := l.contains .unkMsgs } := by
  unfold applyOpts
  rw [foldl_apply1]
  simp

/-- two option lists with the same members (any order, any repetitions) configure the same decoder;
    `WithLogger` and `WithStdLogger` are interchangeable for everything but where the log goes -/
theorem options_order_irrelevant (l₁ l₂ : List DOpt)
    (hlog : l₁.any DOpt.isLogger = l₂.any DOpt.isLogger)
    (hf : DOpt.unkFields ∈ l₁ ↔ DOpt.unkFields ∈ l₂) (hm : DOpt.unkMsgs ∈ l₁ ↔ DOpt.unkMsgs ∈ l₂) :
    applyOpts l₁ = applyOpts l₂ := by
  simp only [applyOpts_eq, hlog, List.contains_eq_mem, hf, hm]

theorem options_perm (l₁ l₂ : List DOpt) (h : l₁.Perm l₂) : applyOpts l₁ = applyOpts l₂ :=
  options_order_irrelevant l₁ l₂ h.any_eq h.mem_iff h.mem_iff

/-- an option given later never switches off what the options before it switched on -/
theorem options_only_add (l : List DOpt) (x : DOpt) :
    ((applyOpts l).logger = true → (applyOpts (l ++ [x])).logger = true) ∧
    ((applyOpts l).unkFields = true → (applyOpts (l ++ [x])).unkFields = true) ∧
    ((applyOpts l).unkMsgs = true → (applyOpts (l ++ [x])).unkMsgs = true) := by
  simp only [applyOpts_eq, List.any_append, List.contains_append]
  exact ⟨fun h => by rw [h, Bool.true_or], fun h => by rw [h, Bool.true_or], fun h => by rw [h, Bool.true_or]⟩

/-- so the whole outcome of a decode is the same for both lists -/
theorem decode_options_order (P : Profile) (l₁ l₂ : List DOpt) (h : l₁.Perm l₂) (mode : Mode) (g : Globals) (r : Reader) :
    decode P (applyOpts l₁) mode g r = decode P (applyOpts l₂) mode g r := by
  rw [options_perm l₁ l₂ h]

/-- the orders the run uses: the standard logger after the list options keeps both lists switched on -/
example : applyOpts [.unkFields, .unkMsgs, .stdLogger] = { logger := true, unkFields := true, unkMsgs := true } := by decide
example : applyOpts [.stdLogger, .unkFields, .unkMsgs] = applyOpts [.unkMsgs, .unkFields, .logger, .unkFields] := by decide

end Fit.Props.C16
