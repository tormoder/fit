import FitModel.File
import FitProofs.WF
/-
  `File.init`, `File.add` and the container's `add`, each described once: `init` attaches the empty
  container of the file type; `add` keeps five message types in `File` itself and hands every other
  one to the attached container, which stores it — expanded — in the slot of its type.
-/
namespace Fit

theorem slotFor_spec {c : Container} {n i : Nat} (h : slotFor c n = some i) :
    i < c.slots.length ∧ (c.slots.getD i default).msg = n := by
  unfold slotFor at h
  simp only at h
  split at h
  · rename_i hlt
    cases h
    refine ⟨hlt, ?_⟩
    rw [List.getD_eq_getElem?_getD, List.getElem?_eq_getElem hlt]
    simpa using List.findIdx_getElem (w := hlt)
  · cases h

theorem slotFor_at (c : Container) (pre : List CSlot) (z : CSlot) (post : List CSlot) (hc : c.slots = pre ++ z :: post)
    (hd : allDistinct (c.slots.map (·.msg)) = true) : slotFor c z.msg = some pre.length := by
  rw [hc, List.map_append, List.map_cons] at hd
  have hne : ∀ y ∈ pre, (y.msg == z.msg) = false := fun y hy =>
    beq_false_of_ne fun e => allDistinct_append_cons hd (e ▸ List.mem_map_of_mem hy)
  unfold slotFor
  rw [hc, List.findIdx_append, List.findIdx_eq_length.mpr hne]
  simp [List.findIdx_cons]

theorem containerAdd_none {P : Profile} {c : Container} {m : Msg} (sl : List (List Msg)) (g : Globals)
    (hs : slotFor c m.num = none) : containerAdd P c sl m g = (sl, g) := by
  simp only [containerAdd, hs]

/-- what the container's `add` arm does to a message before storing it -/
def expandMsg (P : Profile) (m : Msg) (g : Globals) : Msg × Globals :=
  if expandSet.contains m.num then expand P m g else (m, g)

theorem expandMsg_of_not {P : Profile} {m : Msg} (g : Globals) (h : expandSet.contains m.num = false) :
    expandMsg P m g = (m, g) := by
  unfold expandMsg; rw [h]; rfl

theorem containerAdd_some {P : Profile} {c : Container} {m : Msg} {i : Nat} (sl : List (List Msg)) (g : Globals)
    (hs : slotFor c m.num = some i) :
    containerAdd P c sl m g =
      (setAt sl i (if (c.slots.getD i default).many then sl.getD i [] ++ [(expandMsg P m g).1]
        else [(expandMsg P m g).1]), (expandMsg P m g).2) := by
  simp only [containerAdd, hs, expandMsg]

/-- `File.add` over a list of messages, threading the package-level accumulators -/
def addAll (P : Profile) : FileSt × Globals → List Msg → Option (FileSt × Globals)
  | fg, [] => some fg
  | fg, m :: ms =>
    match fg.1.add P m fg.2 with
    | some fg' => addAll P fg' ms
    | none => none

theorem addAll_append (P : Profile) (fg : FileSt × Globals) (a b : List Msg) :
    addAll P fg (a ++ b) = match addAll P fg a with
      | some fg' => addAll P fg' b
      | none => none := by
  induction a generalizing fg with
  | nil => rfl
  | cons m ms ih =>
    simp only [List.cons_append, addAll]
    cases fg.1.add P m fg.2 with
    | none => rfl
    | some fg' => exact ih fg'

def expandList (P : Profile) : Globals → List Msg → List Msg × Globals
  | g, [] => ([], g)
  | g, m :: ms => ((expandMsg P m g).1 :: (expandList P (expandMsg P m g).2 ms).1, (expandList P (expandMsg P m g).2 ms).2)

/-- threads the accumulators slot after slot: the order in which `Encode` writes the messages -/
def expandSlots (P : Profile) : Globals → List (List Msg) → List (List Msg) × Globals
  | g, [] => ([], g)
  | g, s :: ss => ((expandList P g s).1 :: (expandSlots P (expandList P g s).2 ss).1, (expandSlots P (expandList P g s).2 ss).2)

theorem expandList_id (P : Profile) (g : Globals) (ms : List Msg) (h : ∀ m ∈ ms, expandSet.contains m.num = false) :
    expandList P g ms = (ms, g) := by
  induction ms with
  | nil => rfl
  | cons m ms ih =>
    simp only [expandList, expandMsg_of_not g (h m (List.mem_cons_self ..)), ih (fun x hx => h x (List.mem_cons_of_mem _ hx))]

theorem expandSlots_id (P : Profile) (g : Globals) (ss : List (List Msg))
    (h : ∀ ms ∈ ss, ∀ m ∈ ms, expandSet.contains m.num = false) : expandSlots P g ss = (ss, g) := by
  induction ss with
  | nil => rfl
  | cons s ss ih =>
    simp only [expandSlots, expandList_id P g s (h s (List.mem_cons_self ..)),
      ih (fun x hx => h x (List.mem_cons_of_mem _ hx))]

theorem init_ok_iff {P : Profile} {f f' : FileSt} : f.init P = .ok f' ↔
    ∃ i, P.initAns (fileTypeOf f) = .container i ∧
      f' = { f with cidx := some i, slots := List.replicate (P.containers.getD i default).slots.length [] } := by
  unfold FileSt.init
  cases P.initAns (fileTypeOf f) with
  | container i => exact ⟨fun h => ⟨i, rfl, by cases h; rfl⟩, fun ⟨j, hj, e⟩ => by cases hj; rw [e]⟩
  | format => exact ⟨nofun, fun ⟨_, hj, _⟩ => nomatch hj⟩
  | notsupported => exact ⟨nofun, fun ⟨_, hj, _⟩ => nomatch hj⟩

theorem fileTypeOf_congr {a b : FileSt} (h : a.fileId = b.fileId) : fileTypeOf a = fileTypeOf b := by
  unfold fileTypeOf; rw [h]

/-- the arms of `File.add`'s type switch that store into `File` itself -/
def commonNums : List Nat := [mnFileId, mnFileCreator, mnTimestampCorrelation, mnFieldDescription, mnDeveloperDataId]

/-- the file_id message as `add` stores it: once the container is attached, with the file type of
    the file_id the File already has -/
def fidKept (f : FileSt) (m : Msg) : Msg :=
  match f.cidx, m.vals, f.fileId.vals with
  | some _, _ :: rest, t :: _ => { m with vals := t :: rest }
  | _, _, _ => m

theorem fidKept_cases (f : FileSt) (m : Msg) :
    fidKept f m = m ∨ ∃ i v rest t trest, f.cidx = some i ∧ m.vals = v :: rest ∧ f.fileId.vals = t :: trest ∧
      fidKept f m = { m with vals := t :: rest } := by
  unfold fidKept
  split
  · exact .inr ⟨_, _, _, _, _, ‹_›, ‹_›, ‹_›, rfl⟩
  · exact .inl rfl

theorem fileTypeOf_fidKept {f : FileSt} {m : Msg} {i : Nat} (hc : f.cidx = some i) (hv : f.fileId.vals ≠ [])
    (hmv : m.vals ≠ []) : fileTypeOf { f with fileId := fidKept f m } = fileTypeOf f := by
  obtain ⟨v, rest, hm⟩ := List.exists_cons_of_ne_nil hmv
  obtain ⟨t, trest, hf⟩ := List.exists_cons_of_ne_nil hv
  unfold fidKept fileTypeOf
  rw [hc, hm, hf]
  cases t <;> rfl

/-- the arms of `File.add`'s type switch, as a relation between the File before and after -/
inductive Added (P : Profile) (f : FileSt) (m : Msg) (g : Globals) : FileSt → Globals → Prop
  | fileId : m.num = mnFileId → Added P f m g { f with fileId := fidKept f m } g
  | creator : m.num = mnFileCreator → Added P f m g { f with creator := some m } g
  | tscorr : m.num = mnTimestampCorrelation → Added P f m g { f with tscorr := some m } g
  | fieldDesc : m.num = mnFieldDescription → Added P f m g { f with fieldDescs := f.fieldDescs ++ [m] } g
  | devId : m.num = mnDeveloperDataId → Added P f m g { f with devIds := f.devIds ++ [m] } g
  | slot (i : Nat) : m.num ∉ commonNums → f.cidx = some i →
      Added P f m g
        { f with slots := (containerAdd P (P.containers.getD i default) f.slots m g).1,
                 xlog := if (slotFor (P.containers.getD i default) m.num).isSome && expandSet.contains m.num
                   then f.xlog ++ [(m, g)] else f.xlog }
        (containerAdd P (P.containers.getD i default) f.slots m g).2

/-- the only other outcome is the panic on a nil adder: no container attached -/
theorem add_iff {P : Profile} {f f' : FileSt} {m : Msg} {g g' : Globals} :
    f.add P m g = some (f', g') ↔ Added P f m g f' g' := by
  unfold FileSt.add
  constructor
  · intro h
    split at h
    · cases h; exact .fileId ‹_›
    split at h
    · cases h; exact .creator ‹_›
    split at h
    · cases h; exact .tscorr ‹_›
    split at h
    · cases h; exact .fieldDesc ‹_›
    split at h
    · cases h; exact .devId ‹_›
    split at h
    · cases h
    · cases h; exact .slot _ (by simp [commonNums, *]) ‹_›
  · intro h
    cases h with
    | fileId h => rw [if_pos h]; rfl
    | slot i hn hc =>
      simp only [commonNums, List.mem_cons, List.mem_nil_iff, or_false, not_or] at hn
      rw [if_neg hn.1, if_neg hn.2.1, if_neg hn.2.2.1, if_neg hn.2.2.2.1, if_neg hn.2.2.2.2, hc]
    | _ h => simp [h, mnFileId, mnFileCreator, mnTimestampCorrelation, mnFieldDescription, mnDeveloperDataId]

theorem Added.kept {P : Profile} {f f' : FileSt} {m : Msg} {g g' : Globals} (h : Added P f m g f' g') :
    f'.hdr = f.hdr ∧ f'.cidx = f.cidx := by
  cases h <;> exact ⟨rfl, rfl⟩

theorem add_succeeds (P : Profile) (f : FileSt) (msg : Msg) (g : Globals)
    (h : f.cidx.isSome = true ∨ msg.num = mnFileId) :
    ∃ f' g', f.add P msg g = some (f', g') ∧ f'.cidx = f.cidx := by
  by_cases hc : msg.num ∈ commonNums
  · simp only [commonNums, List.mem_cons, List.mem_nil_iff, or_false] at hc
    rcases hc with hc | hc | hc | hc | hc
    · exact ⟨_, _, add_iff.mpr (.fileId hc), rfl⟩
    · exact ⟨_, _, add_iff.mpr (.creator hc), rfl⟩
    · exact ⟨_, _, add_iff.mpr (.tscorr hc), rfl⟩
    · exact ⟨_, _, add_iff.mpr (.fieldDesc hc), rfl⟩
    · exact ⟨_, _, add_iff.mpr (.devId hc), rfl⟩
  · rcases h with h | h
    · obtain ⟨i, hi⟩ := Option.isSome_iff_exists.mp h
      exact ⟨_, _, add_iff.mpr (.slot i hc hi), rfl⟩
    · exact absurd (h ▸ List.mem_cons_self ..) hc

end Fit
