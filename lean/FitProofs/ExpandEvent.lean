import FitProofs.ExpandRecord
import FitProofs.Routing
/-
  C18, event messages: `expandEvent` (data16 → data; score / opponent_score for sport_point events;
  the four gear bytes for gear-change events) is the generic interpretation of the three component
  rules of event.  Then, for all five kinds: what `expand` leaves alone (`expand_sets`).
-/
namespace Fit
open Fit.XSpec

structure EventTyped (pm : PMsg) (m : Msg) : Prop where
  data16 : ∀ i, pm.idx "Data16" = some i → Src16 m i
  data : ∀ i, pm.idx "Data" = some i → SrcU 32 m i
  names : (pm.idx "Data").isSome ∧ (pm.idx "Event").isSome ∧ (pm.idx "Score").isSome ∧ (pm.idx "OpponentScore").isSome ∧
    (pm.idx "RearGearNum").isSome ∧ (pm.idx "RearGear").isSome ∧ (pm.idx "FrontGearNum").isSome ∧
    (pm.idx "FrontGear").isSome

theorem eventData_eq {q : Quirks} {pm : PMsg} {m : Msg} {g : Globals} {di ei sci opi rni rgi fni fgi : Nat}
    (hdi : pm.idx "Data" = some di) (hei : pm.idx "Event" = some ei)
    (hsc : pm.idx "Score" = some sci) (hop : pm.idx "OpponentScore" = some opi)
    (hrn : pm.idx "RearGearNum" = some rni) (hrg : pm.idx "RearGear" = some rgi)
    (hfn : pm.idx "FrontGearNum" = some fni) (hfg : pm.idx "FrontGear" = some fgi)
    (ht : ∀ v, m.vals[di]? = some v → ∃ n, v = .u n) :
    applyRules q pm
      [⟨"Data", 0xFFFFFFFF, [⟨"Score", 16, false⟩, ⟨"OpponentScore", 16, false⟩], [evSportPoint]⟩,
       ⟨"Data", 0xFFFFFFFF, [⟨"RearGearNum", 8, false⟩, ⟨"RearGear", 8, false⟩, ⟨"FrontGearNum", 8, false⟩, ⟨"FrontGear", 8, false⟩],
         [evFrontGearChange, evRearGearChange]⟩] m g =
      ((match m.getU di, m.getU ei with
        | some d, some ev => expandEventData pm m d ev
        | _, _ => m), g) := by
  -- the score rule leaves the event kind alone, which the gear rule looks at afterwards
  have hkeep : ∀ x y, ((m.setU sci x).setU opi y).getU ei = m.getU ei := fun x y => by
    unfold Msg.getU
    rw [setU_vals (idx_ne hop hei (by decide)), setU_vals (idx_ne hsc hei (by decide))]
  cases hv : m.vals[di]? with
  | none =>
    have hD : m.getU di = none := by unfold Msg.getU; rw [hv]
    simp only [applyRules, hdi, srcValue, hv, hD, ite_self]
  | some v =>
    obtain ⟨d, rfl⟩ := ht v hv
    have hD : m.getU di = some d := by unfold Msg.getU; rw [hv]
    cases hE : m.getU ei with
    | none => simp only [applyRules, List.isEmpty_cons, Bool.false_or, hei, hE, hdi, hD, ↓reduceIte, Bool.false_eq_true]
    | some ev =>
      unfold expandEventData
      simp only [applyRules, List.isEmpty_cons, Bool.false_or, hei, hE, hdi, hD, srcValue, hv, hsc, hop, hrn, hrg, hfn, hfg,
        List.contains_cons, List.contains_nil, Bool.or_false, beq_iff_eq, Bool.or_eq_true, ne_eq]
      by_cases hinv : d = 0xFFFFFFFF
      · simp only [hinv, ↓reduceIte, ite_self, not_true_eq_false]
      · by_cases hsp : ev = evSportPoint
        · -- sport point: the two 16-bit halves; the gear rule does not apply
          subst hsp
          have hno : (evSportPoint == evFrontGearChange || evSportPoint == evRearGearChange) = false := by decide
          simp only [hinv, hno, ↓reduceIte, not_false_eq_true, applyComps, hsc, hop, hkeep, hE,
            Bool.false_eq_true, String.reduceEq, and_false, Nat.reducePow]
        · by_cases hgear : ev = evFrontGearChange ∨ ev = evRearGearChange
          · -- `Nat.div_div_eq_div_mul`: the rule's `d / 256 / 256 / 256` is the code's `d / 16777216`
            simp only [hinv, hsp, hgear, ↓reduceIte, not_false_eq_true, applyComps, hrn, hrg, hfn, hfg, Bool.false_eq_true,
              String.reduceEq, and_false, Nat.div_div_eq_div_mul, Nat.reducePow, Nat.reduceMul]
          · simp only [hinv, hsp, hgear, ↓reduceIte, not_false_eq_true]

/-- **event**: the generic interpretation of the three component rules of event is the transcribed
    `expandEvent`, whatever deviations are switched on (they concern record only) -/
theorem event_eq (q : Quirks) (pm : PMsg) (m : Msg) (g : Globals) (h : EventTyped pm m) :
    applyRules q pm (rulesFor mnEvent) m g = (expandEvent pm m, g) := by
  obtain ⟨hd, hev, hsc, hop, hrn, hrg, hfn, hfg⟩ := h.names
  obtain ⟨di, hdi⟩ := Option.isSome_iff_exists.mp hd
  obtain ⟨ei, hei⟩ := Option.isSome_iff_exists.mp hev
  obtain ⟨sci, hsc⟩ := Option.isSome_iff_exists.mp hsc
  obtain ⟨opi, hop⟩ := Option.isSome_iff_exists.mp hop
  obtain ⟨rni, hrn⟩ := Option.isSome_iff_exists.mp hrn
  obtain ⟨rgi, hrg⟩ := Option.isSome_iff_exists.mp hrg
  obtain ⟨fni, hfn⟩ := Option.isSome_iff_exists.mp hfn
  obtain ⟨fgi, hfg⟩ := Option.isSome_iff_exists.mp hfg
  show applyRules q pm (⟨"Data16", 0xFFFF, [⟨"Data", 16, false⟩], []⟩ :: _) m g = _
  rw [applyRules_cons, rule_copy 16 h.data16]
  rw [eventData_eq hdi hei hsc hop hrn hrg hfn hfg
    ((copyIfValid_sets ..).scalar fun v hv => (h.data di hdi v hv).imp fun _ hn => hn.1)]
  unfold expandEvent
  simp only [hdi, hei]
  generalize (copyIfValid pm m "Data16" "Data" 65535).getU di = x
  generalize (copyIfValid pm m "Data16" "Data" 65535).getU ei = y
  cases x <;> cases y <;> rfl

theorem expandEventData_sets (pm : PMsg) (m : Msg) (d ev : Nat) :
    Sets pm ["Score", "OpponentScore", "RearGearNum", "RearGear", "FrontGearNum", "FrontGear"] m
      (expandEventData pm m d ev) := by
  unfold expandEventData
  split
  · split
    · split
      · rename_i hs ho
        exact (Sets.refl.setU _ (by decide) hs).setU _ (by decide) ho
      · exact .refl
    · split
      · split
        · rename_i ha hb hc he
          exact (((Sets.refl.setU _ (by decide) ha).setU _ (by decide) hb).setU _ (by decide) hc).setU _ (by decide) he
        · exact .refl
      · exact .refl
  · exact .refl

theorem expandEvent_sets (pm : PMsg) (m : Msg) :
    Sets pm (["Data"] ++ ["Score", "OpponentScore", "RearGearNum", "RearGear", "FrontGearNum", "FrontGear"]) m
      (expandEvent pm m) := by
  have h1 := copyIfValid_sets pm m "Data16" "Data" 0xFFFF
  unfold expandEvent
  dsimp only
  split
  · split
    · exact h1.trans (expandEventData_sets ..)
    · exact h1.trans .refl
  · exact h1.trans .refl

theorem expand_sets (P : Profile) (m : Msg) (g : Globals) (pm : PMsg) (hpm : P.msg? m.num = some pm) :
    Sets pm expandDests m (expand P m g).1 := by
  unfold expand
  rw [hpm]
  dsimp only
  split
  · exact (((((copyIfValid_sets ..).trans (copyIfValid_sets ..)).trans (expandCsd_sets ..)).trans
      (expandCycles_sets ..)).trans (expandPower_sets ..)).mono (by decide)
  · split
    · exact (((((copyIfValid_sets ..).trans (copyIfValid_sets ..)).trans (copyIfValid_sets ..)).trans
        (copyIfValid_sets ..)).trans (copyIfValid_sets ..)).mono (by decide)
    · split
      · exact (((copyIfValid_sets ..).trans (copyIfValid_sets ..)).trans (copyIfValid_sets ..)).mono (by decide)
      · split
        · exact (expandEvent_sets ..).mono (by decide)
        · exact .refl

theorem expand_num (P : Profile) (m : Msg) (g : Globals) : (expand P m g).1.num = m.num := by
  cases hpm : P.msg? m.num with
  | none => rw [expand_of_none hpm]
  | some pm => exact (expand_sets P m g pm hpm).num

theorem expandMsg_num (P : Profile) (m : Msg) (g : Globals) : (expandMsg P m g).1.num = m.num := by
  rw [expandMsg_eq_expand]
  exact expand_num P m g

end Fit
