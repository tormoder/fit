import FitModel.Decode
import FitModel.WF
import FitModel.Gen.Profile
import FitProofs.Refine
import FitProofs.NoPanic
import FitProofs.Chain
import FitProps.GenWF
/-!
  C01 — decoding entry points are total: no panic or hang on any byte input.

  Every Go panic site on the decode paths is an explicit `panic` outcome of the model
  (`dpanic`/`panicOut`): a nil `msgAdder`, reflection `SetUint`/`SetInt`/`Set` on a struct field of
  the wrong kind, `Field(i)` out of range, slicing `tmp` beyond what was read, the zero `Value`, the
  "pre-CRC" invariant check. Every loop of the decoder is a structural recursion or consumes fuel
  bounded by the header's data size (Lean's termination checker accepts the model; running out of
  fuel before the data size is reached would end in the pre-CRC `panicOut`, and the walk behind
  `decode_never_panics` carries `limit < fuel + st.n`, so the fuel is never what ends the record
  loop). The theorems below show
  that on a profile satisfying `ProfileWF` — which the regenerated profile does (`gen_wf`) — no
  input, package state, option set or read schedule leads to a panic outcome. The correspondence run
  compares the real code's behaviour (under `recover` and a per-case timeout) with the model's.
-/
namespace Fit.Props.C01
open Fit

/-- `Base.Known` over all 256 base-type bytes: known exactly for the 17 table indices with a
    consistent multi-byte flag (bits 5 and 6 are ignored) -/
theorem known_bytes : ∀ b : Fin 256,
    Base.known b.val = (decide (b.val % 32 < 17) && (decide (b.val ≥ 128) == decide (Base.size b.val > 1))) := by
  intro b
  simp only [Base.known, Base.index, Base.multibyte, Base.nNames, Nat.mod_eq_of_lt b.isLt]
  rfl

/-- a definition whose base type is not known is rejected, whatever message and field it names -/
theorem unknown_base_rejected (P : Profile) (g : Nat) (fd : FieldDef) (h : Base.known fd.btype = false) :
    validateFieldDef P g fd = false :=
  Bool.eq_false_iff.mpr fun hv => by rw [((validateFieldDef_iff P g fd).mp hv).1] at h; cases h

/-- a non-string definition smaller than its own base type is rejected (no short reads of
    `tmp[:dsize]` by `Uint16/Uint32`) -/
theorem short_definition_rejected (P : Profile) (g : Nat) (fd : FieldDef)
    (hs : fd.btype ≠ Base.string) (h : fd.size < Base.size fd.btype) :
    validateFieldDef P g fd = false :=
  Bool.eq_false_iff.mpr fun hv => by have := ((validateFieldDef_iff P g fd).mp hv).2.1 hs; omega

/-- for a listed scalar field an accepted definition is never wider than the profile type -/
theorem accepted_not_wider (P : Profile) (g : Nat) (fd : FieldDef) (pf : PField)
    (hk : P.known g = true) (hf : P.getField g fd.num = some pf)
    (hs : fd.btype ≠ Base.string) (ha : tcArray pf.tcode = false)
    (h : validateFieldDef P g fd = true) : fd.size ≤ Base.size (tcBase pf.tcode) :=
  (((validateFieldDef_iff P g fd).mp h).2.2 pf hk hf).scalar ha hs |>.le

/-- the buffered reader never pulls bytes beyond the frame (no over-read): see C10 -/
theorem no_overread (P : Profile) (m : Mode) (g : Globals) (r : Reader) :
    let sp := runSpec (decodeProg P m g) { rest := r.data, stop := r.stop, taken := r.pos, frameEnd := 0 }
    (runBuffered (decodeProg P m g) r).2.pos = sp.2.taken ∨ (runBuffered (decodeProg P m g) r).2.pos ≤ sp.2.frameEnd :=
  (run_refines (decodeProg P m g) r 0).2.2

/-- non-vacuity: a narrow definition (one uint8 byte for session.total_calories — message 18,
    field 11, a uint16 in the profile) is admitted -/
example : validateFieldDef Gen.profile 18 ⟨11, 1, Base.uint8⟩ = true := by decide +kernel

/-- **No entry point panics (specification run).** For every well-formed profile, mode
    (Decode / DecodeHeader / DecodeHeaderAndFileID / CheckIntegrity), option set, package state
    and input, with either way of ending, the outcome is a result or an error. -/
theorem decodeSpec_never_panics (P : Profile) (hwf : ProfileWF P = true) (o : Opts) (m : Mode) (g : Globals)
    (data : Bytes) (stop : Stop) : (decodeSpec P o m g data stop).1.panic = false := by
  rw [decodeSpec_eq, (finalize_keeps o _).panic]
  exact decodeProg_never_panics P hwf m g _

/-- **No entry point panics (the buffered run, any reader).** Whatever the reader's chunking, and
    whether it ends with EOF or with an error, delivered with or without final bytes. -/
theorem decode_never_panics (P : Profile) (hwf : ProfileWF P = true) (o : Opts) (m : Mode) (g : Globals)
    (r : Reader) : (decode P o m g r).1.panic = false := by
  rw [decode_out_eq_spec]
  exact decodeSpec_never_panics P hwf o m g r.data r.stop

/-- the instance for the tree under check: the regenerated profile -/
theorem decode_never_panics_gen (o : Opts) (m : Mode) (g : Globals) (r : Reader) :
    (decode Gen.profile o m g r).1.panic = false :=
  decode_never_panics Gen.profile gen_wf o m g r

/-- `DecodeChained` never panics either: each step is a `Decode`, and a successful `Decode`
    always carries a File to append. -/
theorem chained_never_panics (P : Profile) (hwf : ProfileWF P = true) (o : Opts) (fuel i : Nat)
    (acc : List FileSt) (g : Globals) (data : Bytes) (stop : Stop) :
    (decodeChainedSpec P o fuel i acc g data stop).panic = false := by
  induction fuel generalizing i acc g data with
  | zero => rfl
  | succ fuel ih =>
    have hp := decodeSpec_never_panics P hwf o .full g data stop
    cases he : (decodeSpec P o .full g data stop).1.err with
    | some c =>
      rw [decodeChainedSpec_step, chainTurn_err hp he]
      split <;> rfl
    | none =>
      have hs : (decodeSpec P o .full g data stop).1.success := ⟨he, hp⟩
      obtain ⟨f, hf, _⟩ := full_success_file P hwf _ (FileInv.trivial P) (fun _ _ => trivial) (fun _ _ _ => trivial) g _
        (decodeSpec_success.1 hs)
      obtain ⟨f', hf', _⟩ := (finalize_keeps o _).content f hf
      rw [decodeChainedSpec_step, chainTurn_success hs, show (decodeSpec P o .full g data stop).1.st.file = some f' from hf']
      exact ih _ _ _ _

/-- and so for the real loop over any reader -/
theorem chained_never_panics_buffered (P : Profile) (hwf : ProfileWF P = true) (o : Opts) (fuel i : Nat)
    (acc : List FileSt) (g : Globals) (r : Reader) : (decodeChained P o fuel i acc g r).panic = false := by
  rw [(chained_eq_spec P o fuel i acc g r).2.2.1]
  exact chained_never_panics P hwf o fuel i acc g r.data r.stop

end Fit.Props.C01
