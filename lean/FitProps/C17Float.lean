import Mathlib.Tactic.Linarith
import Mathlib.Tactic.Positivity
import Mathlib.Tactic.NormNum
import Mathlib.Algebra.Order.Floor.Defs
import Mathlib.Algebra.Order.Floor.Ring
import Mathlib.Data.Rat.Floor
/-!
  C17, the floating-point step: `NewLatitudeDegrees(l.Degrees())` / `NewLongitudeDegrees(…)`.

  `Degrees()` is exact (FitProps/C17.lean: `degrees_exact`).  Constructing from degrees computes
  `int32(deg * c)` where `c` is the float64 nearest to 2^31/180 and the product is rounded once.
  Under the IEEE-754 standard model (each rounding has relative error at most 2^-53) the result is
  within one semicircle of the original value.  The rounding behaviour is a *hypothesis* of the
  theorem, visible in its statement; nothing is assumed as an axiom.
-/
namespace Fit.Props.C17

/-- `int32(x)`: truncation toward zero -/
def truncZ (x : ℚ) : ℤ := if 0 ≤ x then ⌊x⌋ else ⌈x⌉

theorem trunc_near (x : ℚ) (s : ℤ) (h : |x - s| < 1) : |truncZ x - s| ≤ 1 := by
  unfold truncZ
  rw [abs_lt] at h
  obtain ⟨h1, h2⟩ := h
  split
  · -- ⌊x⌋ ∈ {s-1, s}
    have hf1 : (s : ℚ) - 1 < x := by linarith
    have hf2 : x < s + 1 := by linarith
    have a1 : s - 1 ≤ ⌊x⌋ := by
      rw [Int.le_floor]; push_cast; linarith
    have a2 : ⌊x⌋ ≤ s := by
      have : ⌊x⌋ < s + 1 := by rw [Int.floor_lt]; push_cast; linarith
      omega
    rw [abs_le]; constructor <;> omega
  · have a1 : s ≤ ⌈x⌉ := by
      have : s - 1 < ⌈x⌉ := by rw [Int.lt_ceil]; push_cast; linarith
      omega
    have a2 : ⌈x⌉ ≤ s + 1 := by
      rw [Int.ceil_le]; push_cast; linarith
    rw [abs_le]; constructor <;> omega

/-- Two roundings with relative error ≤ 2^-53 move a value of magnitude ≤ 2^31 by less than 1. -/
theorem two_roundings_small (s : ℤ) (d1 d2 : ℚ) (hs : |(s : ℚ)| ≤ 2 ^ 31)
    (h1 : |d1| ≤ 1 / 2 ^ 53) (h2 : |d2| ≤ 1 / 2 ^ 53) :
    |(s : ℚ) * (1 + d1) * (1 + d2) - s| < 1 := by
  have e : (s : ℚ) * (1 + d1) * (1 + d2) - s = s * (d1 + d2 + d1 * d2) := by ring
  rw [e, abs_mul]
  have hb : |d1 + d2 + d1 * d2| ≤ 1 / 2 ^ 53 + 1 / 2 ^ 53 + (1 / 2 ^ 53) * (1 / 2 ^ 53) := by
    calc |d1 + d2 + d1 * d2| ≤ |d1 + d2| + |d1 * d2| := abs_add_le _ _
      _ ≤ |d1| + |d2| + |d1| * |d2| := by
        have := abs_add_le d1 d2
        rw [abs_mul]; linarith
      _ ≤ _ := by
        have := mul_le_mul h1 h2 (abs_nonneg _) (by positivity)
        linarith
  calc |(s : ℚ)| * |d1 + d2 + d1 * d2|
      ≤ 2 ^ 31 * (1 / 2 ^ 53 + 1 / 2 ^ 53 + (1 / 2 ^ 53) * (1 / 2 ^ 53)) :=
        mul_le_mul hs hb (abs_nonneg _) (by positivity)
    _ < 1 := by norm_num

/-- **Round trip within one semicircle.**  The two roundings of float64 arithmetic are the relative
    errors `d1`, `d2` of the hypotheses; `c` is the stored constant `2^31/180`, `prod` the rounded
    product.  For every semicircle value `s` in the 32-bit range the degrees
    value `s·180/2^31` (exact) multiplied by the rounded constant, rounded, and truncated to an
    integer is within one of `s`. -/
theorem from_degrees_within_one (s : ℤ) (hs : |(s : ℚ)| ≤ 2 ^ 31)
    (c prod : ℚ)
    (hc : ∃ d1, |d1| ≤ 1 / 2 ^ 53 ∧ c = (2 ^ 31 / 180) * (1 + d1))
    (hp : ∃ d2, |d2| ≤ 1 / 2 ^ 53 ∧ prod = ((s : ℚ) * 180 / 2 ^ 31) * c * (1 + d2)) :
    |truncZ prod - s| ≤ 1 := by
  obtain ⟨d1, hd1, rfl⟩ := hc
  obtain ⟨d2, hd2, rfl⟩ := hp
  apply trunc_near
  have e : (s : ℚ) * 180 / 2 ^ 31 * (2 ^ 31 / 180 * (1 + d1)) * (1 + d2) = s * (1 + d1) * (1 + d2) := by
    field_simp
  rw [e]
  exact two_roundings_small s d1 d2 hs hd1 hd2

end Fit.Props.C17
