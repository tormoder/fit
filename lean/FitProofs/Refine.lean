import FitProofs.Consume
import FitProofs.ListLemmas
/-!
  The buffered interpreter (reader.go's `fill`/`readFull` over an `io.Reader` that may split the
  stream arbitrarily) refines the specification interpreter (consume from a list).
-/
namespace Fit

structure Reader.After (r r' : Reader) (k : Nat) : Prop where
  data : r'.data = r.data.drop k
  stop : r'.stop = r.stop
  pos : r'.pos = r.pos + k
  le : k ≤ r.data.length

theorem Reader.After.refl (r : Reader) : r.After r 0 := ⟨rfl, rfl, rfl, Nat.zero_le _⟩

theorem Reader.After.trans {r r' r'' : Reader} {a b : Nat} (h1 : r.After r' a) (h2 : r'.After r'' b) :
    r.After r'' (a + b) :=
  ⟨by rw [h2.data, h1.data, List.drop_drop], h2.stop.trans h1.stop, by rw [h2.pos, h1.pos, Nat.add_assoc],
    by have := h2.le; rw [h1.data, List.length_drop] at this; have := h1.le; omega⟩

theorem Reader.amount_bounds (r : Reader) (want : Nat) (hw : 1 ≤ want) (hd : 1 ≤ r.data.length) :
    1 ≤ r.amount want ∧ r.amount want ≤ want ∧ r.amount want ≤ r.data.length := by
  unfold Reader.amount
  cases hc : r.chunk with
  | none => dsimp only; omega
  | some c =>
    have : 1 ≤ c := by
      unfold Reader.chunk at hc
      split at hc <;> cases hc
      omega
    dsimp only; omega

/-- the `io.Reader` contract as `Reader.read` models it; an error may come together with data, and
    is then the end of the reader -/
structure Reader.Delivers (r : Reader) (want : Nat) (out : Bytes) (e : Option Stop) (r' : Reader) : Prop where
  take : out = r.data.take out.length
  after : r.After r' out.length
  le : out.length ≤ want
  nil_iff : out = [] ↔ r.data = []
  err_nil : out = [] → e = some r.stop
  err : e = none ∨ (e = some r.stop ∧ r'.data = [])

theorem Reader.read_spec (r : Reader) (want : Nat) (hw : 1 ≤ want) :
    ∃ out e r', r.read want = (out, e, r') ∧ r.Delivers want out e r' := by
  unfold Reader.read
  split
  · rename_i hd
    exact ⟨[], _, _, rfl,
      { take := rfl
        after := { data := by simp [hd], stop := rfl, pos := rfl, le := Nat.zero_le _ }
        le := Nat.zero_le _
        nil_iff := by simp [hd]
        err_nil := fun _ => rfl
        err := .inr ⟨rfl, hd⟩ }⟩
  · rename_i x xs hd
    obtain ⟨h1, h2, h3⟩ := r.amount_bounds want hw (by rw [hd]; simp)
    have hl : (r.data.take (r.amount want)).length = r.amount want := by rw [List.length_take]; omega
    refine ⟨_, _, _, rfl,
      { take := by rw [hl]
        after := { data := by rw [hl], stop := rfl, pos := by rw [hl], le := by rw [hl]; exact h3 }
        le := by rw [hl]; exact h2
        nil_iff := ⟨fun h => by rw [h] at hl; simp at hl; omega, fun h => by rw [hd] at h; cases h⟩
        err_nil := fun h => by rw [h] at hl; simp at hl; omega
        err := ?_ }⟩
    split
    · rename_i hc
      simp only [Bool.and_eq_true, List.isEmpty_iff] at hc
      exact .inr ⟨rfl, hc.2⟩
    · exact .inl rfl

/-- what `io.ReadFull` and `io.CopyN` return for `k` bytes; `f` makes the failure out of the number
    of bytes got and the way the reader ends -/
def ReadsAll {ε} (f : Nat → Stop → ε) (k : Nat) (r : Reader) (acc : Bytes) (res : Except ε Bytes × Reader) : Prop :=
  ∃ r', r.After r' (min k r.data.length) ∧
    res = (if k ≤ r.data.length then .ok (acc ++ r.data.take k) else .error (f (acc.length + r.data.length) r.stop), r')

theorem ReadsAll.zero {ε} (f : Nat → Stop → ε) (r : Reader) (acc : Bytes) : ReadsAll f 0 r acc (.ok acc, r) :=
  ⟨r, by rw [Nat.zero_min]; exact .refl r, by simp⟩

theorem ReadsAll.nil {ε} (f : Nat → Stop → ε) {k : Nat} {r r' : Reader} (acc : Bytes) (hk : k ≠ 0)
    (hd : r.data = []) (ha : r.After r' 0) : ReadsAll f k r acc (.error (f acc.length r.stop), r') := by
  refine ⟨r', by rw [hd, List.length_nil, Nat.min_zero]; exact ha, ?_⟩
  simp only [hd, List.length_nil, Nat.le_zero_eq, hk, ↓reduceIte, Nat.add_zero]

theorem ReadsAll.step {ε} {f : Nat → Stop → ε} {k : Nat} {r r1 : Reader} {acc out : Bytes}
    {res : Except ε Bytes × Reader} (ho : out = r.data.take out.length) (ha : r.After r1 out.length)
    (hak : out.length ≤ k) (h : ReadsAll f (k - out.length) r1 (acc ++ out) res) : ReadsAll f k r acc res := by
  obtain ⟨r', h1, h2⟩ := h
  have hl : r1.data.length = r.data.length - out.length := by rw [ha.data, List.length_drop]
  have hale := ha.le
  generalize out.length = a at *
  refine ⟨r', ?_, ?_⟩
  · have := ha.trans h1
    rwa [show a + min (k - a) r1.data.length = min k r.data.length by omega] at this
  · rw [h2, ha.stop, ha.data, ho, List.append_assoc, ← List.take_add, List.length_append, List.length_take,
      List.length_drop]
    simp only [show a + (k - a) = k by omega, show acc.length + min a r.data.length + (r.data.length - a) =
      acc.length + r.data.length by omega, show (k - a ≤ r.data.length - a) ↔ (k ≤ r.data.length) by omega]

theorem readDirectB_spec (fuel k : Nat) (r : Reader) (acc : Bytes) (hf : k ≤ fuel) :
    ReadsAll Prod.mk k r acc (readDirectB fuel k r acc) := by
  induction fuel generalizing k r acc with
  | zero => rw [show k = 0 by omega]; exact .zero _ r acc
  | succ fuel ih =>
    unfold readDirectB
    split
    · rename_i hk; rw [hk]; exact .zero _ r acc
    · rename_i hk
      obtain ⟨out, e, r', hr, d⟩ := r.read_spec k (by omega)
      simp only [hr]
      cases out with
      | nil => rw [d.err_nil rfl]; exact .nil _ acc hk (d.nil_iff.1 rfl) d.after
      | cons x xs => exact .step d.take d.after d.le (ih _ _ _ (by have := d.le; simp only [List.length_cons] at this ⊢; omega))

theorem copyNB_spec (fuel k : Nat) (r : Reader) (acc : Bytes) (hf : k ≤ fuel) :
    ReadsAll (fun _ s => s) k r acc (copyNB fuel k r acc) := by
  induction fuel generalizing k r acc with
  | zero => rw [show k = 0 by omega]; exact .zero _ r acc
  | succ fuel ih =>
    unfold copyNB
    split
    · rename_i hk; rw [hk]; exact .zero _ r acc
    · rename_i hk
      obtain ⟨out, e, r', hr, d⟩ := r.read_spec (min copyBufSize k) (by unfold copyBufSize; omega)
      have hak : out.length ≤ k := by have := d.le; omega
      have ha := d.after
      simp only [hr]
      cases out with
      | nil => rw [d.err_nil rfl]; exact .nil _ acc hk (d.nil_iff.1 rfl) ha
      | cons x xs =>
        simp only [List.isEmpty_cons, Bool.false_eq_true, ↓reduceIte]
        split
        · -- data delivered together with a fault: the reader is exhausted, so this is the last step
          rename_i hef
          rcases d.err with hx | ⟨hx, hnil⟩
          · rw [hx] at hef; cases hef
          · have hst : r.stop = .fault := by rw [hx] at hef; exact (Option.some.inj hef)
            refine .step d.take ha hak ?_
            split
            · rename_i hk'; rw [hk', Nat.sub_self]; exact .zero _ r' _
            · rename_i hk'
              have := ReadsAll.nil (fun _ s => s) (acc ++ x :: xs) (show k - (x :: xs).length ≠ 0 by simp only [List.length_cons] at hak hk' ⊢; omega) hnil (.refl r')
              rwa [ha.stop, hst] at this
        · exact .step d.take ha hak (ih _ _ _ (by simp only [List.length_cons] at hak ⊢; omega))

/-- reader.go's `fill` never buffers beyond the data area; `base` = reader position at its start -/
structure BufInv (b : BufSt) (base : Nat) : Prop where
  inv : b.n + b.pending.length ≤ b.limit
  pos : b.r.pos = base + b.n + b.pending.length

def BufSt.avail (b : BufSt) : Bytes := b.pending ++ b.r.data

/-- `readFull(k)` answers as the specification run does on `b.avail` -/
structure RFSpec (k : Nat) (b : BufSt) (base : Nat) (res : Except RdStop Bytes × BufSt) : Prop where
  inv : BufInv res.2 base
  limit : res.2.limit = b.limit
  stop : res.2.r.stop = b.r.stop
  mono : b.n ≤ res.2.n
  val : res.1 = if k ≤ b.limit - b.n ∧ k ≤ b.avail.length then .ok (b.avail.take k)
    else .error (if b.limit - b.n ≤ b.avail.length then .limit else .ofStop b.r.stop)
  ok : k ≤ b.limit - b.n → k ≤ b.avail.length → res.2.avail = b.avail.drop k ∧ res.2.n = b.n + k

/-- the conclusion is `readFullB`'s buffer branch: `c` bytes are served from the buffer, and what is asked
    for, the room and the bytes left all shrink by `c` -/
theorem serve_step (k : Nat) (b : BufSt) (base : Nat) (h : BufInv b base)
    (res1 : Except RdStop Bytes × BufSt)
    (ih : RFSpec (k - (b.pending.take k).length)
      { b with pending := b.pending.drop k, n := b.n + (b.pending.take k).length } base res1) :
    RFSpec k b base
      (match res1.1 with
        | .ok rest => (.ok (b.pending.take k ++ rest), res1.2)
        | .error e => (.error e, res1.2)) := by
  obtain ⟨e1, e2⟩ := take_drop_append_min b.pending b.r.data k
  obtain ⟨i1, i2, i3, i4, i5, i6⟩ := ih
  have hinv := h.inv
  have hA : b.avail.length = b.pending.length + b.r.data.length := List.length_append
  simp only [BufSt.avail, e2, List.length_take, List.length_drop] at i4 i5 i6
  rw [← BufSt.avail] at i5 i6 e1
  have hck : min k b.pending.length ≤ k := Nat.min_le_left ..
  have hcp : min k b.pending.length ≤ b.pending.length := Nat.min_le_right ..
  generalize min k b.pending.length = c at *
  have hk : c + (k - c) = k := by omega
  simp only [show (b.limit - (b.n + c) ≤ b.avail.length - c) ↔ (b.limit - b.n ≤ b.avail.length) by omega] at i5
  by_cases hcnd : k ≤ b.limit - b.n ∧ k ≤ b.avail.length
  · obtain ⟨q1, q2⟩ := i6 (by omega) (by omega)
    rw [if_pos (by omega)] at i5
    rw [i5]
    exact ⟨i1, i2, i3, by dsimp only; omega, by dsimp only; rw [if_pos hcnd, e1, ← List.take_add, hk],
      fun _ _ => ⟨by rw [← hk, ← List.drop_drop]; exact q1, by dsimp only; omega⟩⟩
  · rw [if_neg (by omega)] at i5
    rw [i5]
    exact ⟨i1, i2, i3, by dsimp only; omega, by rw [if_neg hcnd], fun h1 h2 => absurd ⟨h1, h2⟩ hcnd⟩

theorem serve_inv (k : Nat) (b : BufSt) (base : Nat) (h : BufInv b base) :
    BufInv { b with pending := b.pending.drop k, n := b.n + (b.pending.take k).length } base := by
  have := h.inv
  have := h.pos
  constructor <;> simp only [List.length_drop, List.length_take] <;> omega

theorem readFullB_spec (k : Nat) (b : BufSt) (base : Nat) (h : BufInv b base) :
    RFSpec k b base (readFullB k b) := by
  induction k, b using readFullB.induct with
  | case1 b =>  -- k = 0
    rw [readFullB, if_pos rfl]
    exact ⟨h, rfl, rfl, Nat.le_refl _, by simp, fun _ _ => ⟨rfl, rfl⟩⟩
  | case2 k b hk hp c r rest hr ih =>  -- served from the buffer, the rest succeeds
    rw [readFullB, if_neg hk, dif_pos hp]
    exact serve_step k b base h _ (ih (serve_inv k b base h))
  | case3 k b hk hp c r e hr ih =>  -- served from the buffer, the rest fails
    rw [readFullB, if_neg hk, dif_pos hp]
    exact serve_step k b base h _ (ih (serve_inv k b base h))
  | case4 k b hk hp hl =>  -- buffer empty, the data area used up
    rw [readFullB, if_neg hk, dif_neg hp, if_pos hl]
    refine ⟨h, rfl, rfl, Nat.le_refl _, ?_, fun h1 _ => by omega⟩
    rw [if_neg (by omega), if_pos (by omega)]
  | case5 k b hk hp hl res hr =>  -- buffer empty, `Read` delivers nothing: the reader has ended
    have hpn : b.pending = [] := Classical.not_not.1 hp
    obtain ⟨out, e, r', hrd, d⟩ := b.r.read_spec (min bufSize (b.limit - b.n)) (by unfold bufSize; omega)
    have ho : out = [] := by
      have : res.1 = out := by show (b.r.read _).1 = _; rw [hrd]
      rw [← this]; exact List.isEmpty_iff.1 hr
    subst ho
    have ha := d.after
    have hav : b.avail = [] := by rw [BufSt.avail, hpn, d.nil_iff.1 rfl]; rfl
    rw [readFullB, if_neg hk, dif_neg hp, if_neg hl]
    simp only [hrd, List.isEmpty_nil, ↓reduceDIte, d.err_nil rfl]
    refine ⟨⟨h.inv, ?_⟩, rfl, ha.stop, Nat.le_refl _, ?_, fun _ h2 => ?_⟩
    · show r'.pos = _; rw [ha.pos]; exact h.pos
    · rw [hav, if_neg (by simp; omega), if_neg (by simp; omega)]
      cases b.r.stop <;> rfl
    · rw [hav] at h2; simp at h2; omega
  | case6 k b hk hp hl res hr ih =>  -- buffer empty, `Read` refills it
    have hpn : b.pending = [] := Classical.not_not.1 hp
    obtain ⟨out, e, r', hrd, ⟨ho, ha, haw, _, _, _⟩⟩ := b.r.read_spec (min bufSize (b.limit - b.n)) (by unfold bufSize; omega)
    have hres : res = (out, e, r') := hrd
    have hinv2 : BufInv { b with r := r', pending := out } base := by
      have := h.pos; rw [hpn] at this
      exact ⟨by dsimp only; omega, by dsimp only; rw [ha.pos]; simp at this; omega⟩
    have hav : ({ b with r := r', pending := out } : BufSt).avail = b.avail := by
      rw [BufSt.avail, BufSt.avail, hpn, ha.data]
      dsimp only
      rw [ho, List.length_take, Nat.min_eq_left ha.le, List.take_append_drop, List.nil_append]
    rw [hres] at ih hr
    dsimp only at ih hr
    obtain ⟨i1, i2, i3, i4, i5, i6⟩ := ih hinv2
    rw [hav] at i5 i6
    rw [readFullB, if_neg hk, dif_neg hp, if_neg hl]
    simp only [hrd, hr, Bool.false_eq_true, ↓reduceDIte]
    exact ⟨i1, i2, i3.trans ha.stop, i4, by rw [i5]; dsimp only; rw [ha.stop], i6⟩

def SpecSt.ofReader (r : Reader) : SpecSt := { rest := r.data, stop := r.stop, taken := r.pos }

theorem runT_refines {α} (p : TProg α) (r : Reader) (s : SpecSt) (hd : s.rest = r.data) (hs : s.stop = r.stop) :
    ∃ j, r.After (runBufferedT p r).2 j ∧ runSpecT p s = ((runBufferedT p r).1, s.adv j) := by
  induction p generalizing r s with
  | done a => exact ⟨0, .refl r, rfl⟩
  | readDirect k onErr cont ih =>
    obtain ⟨r1, ha, e⟩ := readDirectB_spec k k r [] (Nat.le_refl k)
    rw [runSpecT_readDirect, hd, hs]
    by_cases hk : k ≤ r.data.length
    · rw [Nat.min_eq_left hk] at ha
      simp only [runBufferedT, e, if_pos hk, List.nil_append]
      obtain ⟨j, hj, ej⟩ := ih (r.data.take k) r1 (s.adv k) (by rw [s.adv_rest, hd, ha.data]) (hs.trans ha.stop.symm)
      exact ⟨k + j, ha.trans hj, by rw [ej, s.adv_adv]⟩
    · rw [Nat.min_eq_right (by omega)] at ha
      simp only [runBufferedT, e, if_neg hk, List.length_nil, Nat.zero_add]
      exact ⟨_, ha, rfl⟩

structure DRefines {ε β} (p : DProg ε β) (b : BufSt) (base : Nat) (s : SpecSt) (res : (ε ⊕ β) × BufSt) (j : Nat) : Prop where
  le : j ≤ s.rest.length
  run : runSpecD b.limit p b.n s = (res.1, b.n + j, s.adv j)
  inv : BufInv res.2 base
  limit : res.2.limit = b.limit
  stop : res.2.r.stop = b.r.stop
  mono : b.n + j ≤ res.2.n
  exact : ∀ x, res.1 = .inr x → res.2.n = b.n + j ∧ res.2.avail = s.rest.drop j

theorem runD_refines {ε β} (p : DProg ε β) (b : BufSt) (base : Nat) (h : BufInv b base) (s : SpecSt)
    (hd : s.rest = b.avail) (hs : s.stop = b.r.stop) : ∃ j, DRefines p b base s (runBufferedD p b) j := by
  induction p generalizing b s with
  | done x => exact ⟨0, Nat.zero_le _, rfl, h, rfl, rfl, Nat.le_refl _, fun _ _ => ⟨rfl, hd.symm⟩⟩
  | exit e => exact ⟨0, Nat.zero_le _, rfl, h, rfl, rfl, Nat.le_refl _, fun _ hx => by cases hx⟩
  | readBuf k onErr cont ih =>
    have f := readFullB_spec k b base h
    simp only [runBufferedD]
    generalize readFullB k b = res at f
    obtain ⟨v, b1⟩ := res
    obtain ⟨finv, flimit, fstop, fmono, fval, fok⟩ := f
    dsimp only at finv flimit fstop fmono fval fok
    subst fval
    by_cases hc : k ≤ b.limit - b.n ∧ k ≤ b.avail.length
    · obtain ⟨q1, q2⟩ := fok hc.1 hc.2
      obtain ⟨j, d⟩ := ih (b.avail.take k) b1 finv (s.adv k) (by rw [s.adv_rest, hd, q1]) (hs.trans fstop.symm)
      have hj := d.le
      have e := d.run
      have hm := d.mono
      rw [flimit, q2] at e
      rw [s.adv_rest, hd, List.length_drop] at hj
      simp only [if_pos hc]
      exact ⟨k + j,
        { le := by rw [hd]; omega
          run := by rw [runSpecD_readBuf, hd, hs, if_pos hc, e, s.adv_adv, Nat.add_assoc]
          inv := d.inv
          limit := d.limit.trans flimit
          stop := d.stop.trans fstop
          mono := by omega
          exact := fun x hx => by
            obtain ⟨y1, y2⟩ := d.exact x hx
            exact ⟨by omega, by rw [y2, s.adv_rest, List.drop_drop, hd]⟩ }⟩
    · simp only [if_neg hc]
      exact ⟨0, Nat.zero_le _, by rw [runSpecD_readBuf, hd, hs, if_neg hc]; rfl, finv, flimit, fstop, fmono,
        fun _ hx => by cases hx⟩

theorem dataPhase_refines {ε β} (limit : Nat) (p : DProg ε β) (r : Reader) (s : SpecSt)
    (hd : s.rest = r.data) (hs : s.stop = r.stop) :
    ∃ j o b, runBufferedD p { r := r, pending := [], n := 0, limit := limit } = (o, b) ∧
      runSpecD limit p 0 (s.framed (s.taken + limit)) = (o, j, (s.adv j).framed (s.taken + limit)) ∧
      (∃ i, b.r.pos = r.pos + i ∧ j ≤ i ∧ i ≤ limit) ∧
      ∀ x, o = .inr x → (b.n = b.limit ↔ j = limit) ∧ (j = limit → r.After b.r j) := by
  obtain ⟨j, d⟩ := runD_refines p { r := r, pending := [], n := 0, limit := limit } r.pos
    ⟨Nat.zero_le _, rfl⟩ (s.framed (s.taken + limit)) hd hs
  generalize runBufferedD p { r := r, pending := [], n := 0, limit := limit } = res at d
  obtain ⟨o, b⟩ := res
  have hpos := d.inv.pos
  have hinv := d.inv.inv
  have hj := d.le
  have e := d.run
  have hl := d.limit
  have hm := d.mono
  dsimp only at hj e hl hm hpos hinv
  rw [Nat.zero_add] at e hm
  refine ⟨j, o, b, rfl, e, ⟨_, hpos.trans (Nat.add_assoc ..), by omega, by omega⟩, fun x hx => ?_⟩
  obtain ⟨y1, y2⟩ := d.exact x hx
  dsimp only at y1 y2
  refine ⟨by omega, fun hn => ?_⟩
  -- the whole data area consumed, so nothing is buffered, so the reader stands exactly at its end
  have hp : b.pending = [] := List.eq_nil_of_length_eq_zero (by omega)
  rw [BufSt.avail, hp, List.nil_append] at y2
  rw [hp] at hpos
  exact ⟨y2.trans (by rw [← hd]; rfl), d.stop, by simpa [y1] using hpos, by rw [← hd]; exact hj⟩

/-- **Refinement.**  Whatever the reader's chunking, the buffered run returns what the specification
    run returns.  It leaves the reader where that run stops or, when it stops inside the data area
    (`fill` reads ahead), between there and the end `fe` of the data area. -/
theorem run_refines_gen {α ε β} (p : HProg α ε β) (r : Reader) (s : SpecSt) (hd : s.rest = r.data) (hs : s.stop = r.stop) :
    ∃ j fe, runSpec p s = ((runBuffered p r).1, (s.adv j).framed fe) ∧
      (r.After (runBuffered p r).2 j ∨
        ∃ i, (runBuffered p r).2.pos = r.pos + i ∧ j ≤ i ∧ s.taken + i ≤ fe) := by
  induction p generalizing r s with
  | done a => exact ⟨0, _, rfl, .inl (.refl r)⟩
  | readDirect k onErr cont ih =>
    obtain ⟨r1, ha, e⟩ := readDirectB_spec k k r [] (Nat.le_refl k)
    rw [runSpec_readDirect, hd, hs]
    by_cases hk : k ≤ r.data.length
    · rw [Nat.min_eq_left hk] at ha
      simp only [runBuffered, e, if_pos hk, List.nil_append]
      obtain ⟨j, fe, ej, hj⟩ := ih (r.data.take k) r1 (s.adv k) (by rw [s.adv_rest, hd, ha.data]) (hs.trans ha.stop.symm)
      refine ⟨k + j, fe, by rw [ej, s.adv_adv], ?_⟩
      rcases hj with hj | ⟨i, h1, h2, h3⟩
      · exact .inl (ha.trans hj)
      · exact .inr ⟨k + i, by rw [h1, ha.pos, Nat.add_assoc], by omega, by rw [s.adv_taken] at h3; omega⟩
    · rw [Nat.min_eq_right (by omega)] at ha
      simp only [runBuffered, e, if_neg hk, List.length_nil, Nat.zero_add]
      exact ⟨_, _, rfl, .inl ha⟩
  | data limit p onExit onBad after =>
    obtain ⟨j, o, b, eb, es, ⟨i, h1, h2, h3⟩, hx⟩ := dataPhase_refines limit p r s hd hs
    rw [runSpec_data_def, es]
    simp only [runBuffered, eb]
    cases o with
    | inl e => exact ⟨j, _, rfl, .inr ⟨i, h1, h2, by omega⟩⟩
    | inr x =>
      obtain ⟨hn, ha⟩ := hx x rfl
      dsimp only
      by_cases hj : j = limit
      · rw [if_pos (hn.2 hj), if_pos hj]
        obtain ⟨j2, a2, e2⟩ := runT_refines (after x) b.r ((s.adv j).framed (s.taken + limit))
          (by rw [(ha hj).data, ← hd]; rfl) (hs.trans (ha hj).stop.symm)
        exact ⟨j + j2, _, by rw [e2, ← SpecSt.framed_adv, ← SpecSt.framed_adv, SpecSt.adv_adv], .inl ((ha hj).trans a2)⟩
      · rw [if_neg (fun h => hj (hn.1 h)), if_neg hj]
        exact ⟨j, _, rfl, .inr ⟨i, h1, h2, by omega⟩⟩
  | dataOnly limit p onExit fin =>
    obtain ⟨j, o, b, eb, es, ⟨i, h1, h2, h3⟩, _⟩ := dataPhase_refines limit p r s hd hs
    rw [runSpec_dataOnly_def, es]
    simp only [runBuffered, eb]
    cases o <;> exact ⟨j, _, rfl, .inr ⟨i, h1, h2, by omega⟩⟩
  | copyAll limit onErr cont =>
    obtain ⟨r1, ha, e⟩ := copyNB_spec limit limit r [] (Nat.le_refl limit)
    rw [runSpec_copyAll, hd, hs]
    by_cases hk : limit ≤ r.data.length
    · rw [Nat.min_eq_left hk] at ha
      simp only [runBuffered, e, if_pos hk, List.nil_append]
      obtain ⟨j, hj, ej⟩ := runT_refines (cont (r.data.take limit)) r1 ((s.adv limit).framed (s.taken + limit))
        (by rw [ha.data, ← hd]; rfl) (hs.trans ha.stop.symm)
      exact ⟨limit + j, _, by rw [ej, ← SpecSt.framed_adv, ← SpecSt.framed_adv, SpecSt.adv_adv], .inl (ha.trans hj)⟩
    · rw [Nat.min_eq_right (by omega)] at ha
      simp only [runBuffered, e, if_neg hk]
      exact ⟨_, _, rfl, .inl ha⟩

theorem run_refines {α ε β} (p : HProg α ε β) (r : Reader) (fe : Nat) :
    let sp := runSpec p { rest := r.data, stop := r.stop, taken := r.pos, frameEnd := fe }
    (runBuffered p r).1 = sp.1 ∧ sp.2.taken ≤ (runBuffered p r).2.pos ∧
    ((runBuffered p r).2.pos = sp.2.taken ∨ (runBuffered p r).2.pos ≤ sp.2.frameEnd) := by
  obtain ⟨j, fe', e, h⟩ := run_refines_gen p r { rest := r.data, stop := r.stop, taken := r.pos, frameEnd := fe } rfl rfl
  rw [e]
  rcases h with h | ⟨i, h1, h2, h3⟩
  · exact ⟨rfl, Nat.le_of_eq h.pos.symm, .inl h.pos⟩
  · exact ⟨rfl, by rw [h1]; exact Nat.add_le_add_left h2 _, .inr (by rw [h1]; exact h3)⟩

theorem run_chunk_independent {α ε β} (p : HProg α ε β) (r1 r2 : Reader)
    (hd : r1.data = r2.data) (hs : r1.stop = r2.stop) :
    (runBuffered p r1).1 = (runBuffered p r2).1 := by
  obtain ⟨_, _, h1, _⟩ := run_refines_gen p r1 (.ofReader r1) rfl rfl
  obtain ⟨_, _, h2, _⟩ := run_refines_gen p r2 (.ofReader r1) hd hs
  exact (congrArg Prod.fst h1).symm.trans (congrArg Prod.fst h2)

end Fit
