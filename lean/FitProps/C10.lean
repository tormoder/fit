import FitProofs.Chain
import FitModel.Gen.Profile
import FitProofs.WholeFile
/-!
  C10 — framing: a decode consumes exactly one file, however reads are chunked.

  `decode` runs the decoder program under the buffered interpreter (the model of reader.go's
  `fill`/`readFull` on an arbitrary `io.Reader`); `decodeSpec` runs the same program on the plain
  byte list.  `run_refines_gen` (FitProofs/Refine.lean) relates the two for every program.
-/
namespace Fit.Props.C10
open Fit

/-- The outcome of every entry point (all modes, all option sets) is the outcome of the
    specification run on the byte list: it cannot depend on how the reader splits the stream. -/
theorem decode_eq_spec (P : Profile) (o : Opts) (m : Mode) (g : Globals) (r : Reader) :
    (decode P o m g r).1 =
      (decodeSpec P o m g r.data r.stop).1 :=
  decode_out_eq_spec P o m g r

/-- chunk independence: same bytes, same way of ending ⇒ same result, for any two read schedules
    (1-byte reads, odd sizes, reads larger than the internal buffer, data delivered together with
    the end-of-stream error, …) -/
theorem chunk_independent (P : Profile) (o : Opts) (m : Mode) (g : Globals) (r1 r2 : Reader)
    (hd : r1.data = r2.data) (hs : r1.stop = r2.stop) :
    (decode P o m g r1).1 = (decode P o m g r2).1 := by
  rw [decode_eq_spec, decode_eq_spec, hd, hs]

/-- The buffered run never pulls fewer bytes than the specification run consumes, and pulls more
    only while inside the data area — then never beyond its end (`frameEnd` = header size + data
    size after the start): no entry point reads past the frame. -/
theorem never_overreads (P : Profile) (o : Opts) (m : Mode) (g : Globals) (r : Reader) :
    let sp := runSpec (decodeProg P m g) { rest := r.data, stop := r.stop, taken := r.pos, frameEnd := 0 }
    sp.2.taken ≤ (decode P o m g r).2.pos ∧
    ((decode P o m g r).2.pos = sp.2.taken ∨ (decode P o m g r).2.pos ≤ sp.2.frameEnd) := by
  simp only [decode_eq]
  exact (run_refines (decodeProg P m g) r 0).2

/-- One turn of `DecodeChained`'s loop, spelled out: a decode on what the previous ones left, then
    the decision to stop or go on.  (That the result cannot depend on the chunking either is
    `chained_eq_chain_over_bytes`.) -/
theorem chained_step (P : Profile) (o : Opts) (fuel i : Nat) (acc : List FileSt) (g : Globals) (r : Reader) :
    decodeChained P o (fuel + 1) i acc g r =
      (let res := decode P o .full g r
       if res.1.panic then ⟨acc, none, true, res.1.st.glob, res.2⟩
       else match res.1.err with
         | some c =>
           if res.1.cleanEOF ∧ i ≠ 0 then ⟨acc, none, false, res.1.st.glob, res.2⟩
           else ⟨(match res.1.st.file with | some f => acc ++ [f] | none => acc), some c, false, res.1.st.glob, res.2⟩
         | none =>
           match res.1.st.file with
           | some f => decodeChained P o fuel (i + 1) (acc ++ [f]) res.1.st.glob res.2
           | none => ⟨acc, none, true, res.1.st.glob, res.2⟩) := by
  rfl

/-- **Exact consumption (specification run).** If `Decode` (mode `full`) or `CheckIntegrity`
    (mode `crcOnly`) succeeds on a stream, it has consumed exactly header size + data size + 2
    bytes — the frame declared by the stream's own first bytes — whatever follows in the stream. -/
theorem consumes_exactly (P : Profile) (o : Opts) (m : Mode) (hm : m = .full ∨ m = .crcOnly)
    (g : Globals) (data : Bytes) (stop : Stop)
    (h : (decodeSpec P o m g data stop).1.success) :
    (decodeSpec P o m g data stop).2.taken = frameLen data ∧
    (decodeSpec P o m g data stop).2.rest = data.drop (frameLen data) := by
  rw [(decodeSpec_consumes P o m hm g data stop h).2]
  exact ⟨rfl, rfl⟩

/-- **Exact consumption (buffered run, any read schedule).** After a successful `Decode` or
    `CheckIntegrity` the reader has delivered exactly the frame: nothing of what follows has been
    pulled, however the reads were chunked. -/
theorem decode_consumes_exactly (P : Profile) (o : Opts) (m : Mode) (hm : m = .full ∨ m = .crcOnly)
    (g : Globals) (r : Reader) (h : (decode P o m g r).1.success) :
    (decode P o m g r).2.pos = r.pos + frameLen r.data :=
  (decode_success_after P o m hm g r h).pos

/-- `frameLen` on an instance: a 12-byte header declaring 0 data bytes announces a 14-byte frame;
    the 15th byte is not part of it (kernel-evaluated) -/
example : frameLen [12, 0x10, 0, 0, 0, 0, 0, 0, 0x2E, 0x46, 0x49, 0x54, 0xAA, 0xBB, 0xCC] = 14 := by decide

/-- **Whatever follows a file is irrelevant to its decode** (the reason a chain can be decoded
    file by file): a successful decode of `f` gives the same outcome on `f ++ tail` and leaves
    exactly `tail` more. -/
theorem decode_ignores_tail (P : Profile) (o : Opts) (m : Mode) (g : Globals) (f tail : Bytes) (stop : Stop)
    (hs : (decodeSpec P o m g f stop).1.success) :
    (decodeSpec P o m g (f ++ tail) stop).1 = (decodeSpec P o m g f stop).1 ∧
    (decodeSpec P o m g (f ++ tail) stop).2.rest = (decodeSpec P o m g f stop).2.rest ++ tail := by
  have e : runSpec (decodeProg P m g) { rest := f ++ tail, stop := stop, taken := 0 } = _ :=
    decodeProg_extension P m g { rest := f, stop := stop, taken := 0 } tail (decodeSpec_success.1 hs)
  rw [decodeSpec_eq, decodeSpec_eq, e]
  exact ⟨rfl, rfl⟩

/-- **`DecodeChained` is the chain over the byte list**, whatever the read schedule: files,
    error, panic flag and final package state are those of decoding file after file, each from
    where the previous one ended. -/
theorem chained_eq_chain_over_bytes (P : Profile) (o : Opts) (fuel i : Nat) (acc : List FileSt) (g : Globals)
    (r : Reader) :
    (decodeChained P o fuel i acc g r).files = (decodeChainedSpec P o fuel i acc g r.data r.stop).files ∧
    (decodeChained P o fuel i acc g r).err = (decodeChainedSpec P o fuel i acc g r.data r.stop).err ∧
    (decodeChained P o fuel i acc g r).panic = (decodeChainedSpec P o fuel i acc g r.data r.stop).panic ∧
    (decodeChained P o fuel i acc g r).glob = (decodeChainedSpec P o fuel i acc g r.data r.stop).glob :=
  chained_eq_spec P o fuel i acc g r

/-- **Concatenation.** If `f` alone decodes successfully to file `x` and is exactly one frame long,
    then the chain over `f ++ tail` is `x` followed by the chain over `tail` (continued from the
    package state the first decode left). By induction: the chain over a concatenation of valid
    files is the list of the files decoded one by one. -/
theorem chained_concat (P : Profile) (o : Opts) (fuel i : Nat) (acc : List FileSt) (g : Globals)
    (f tail : Bytes) (stop : Stop) (x : FileSt)
    (hs : (decodeSpec P o .full g f stop).1.success)
    (hlen : f.length = frameLen f)
    (hf : (decodeSpec P o .full g f stop).1.st.file = some x) :
    decodeChainedSpec P o (fuel + 1) i acc g (f ++ tail) stop =
      decodeChainedSpec P o fuel (i + 1) (acc ++ [x]) (decodeSpec P o .full g f stop).1.st.glob tail stop := by
  obtain ⟨a1, a2⟩ := decode_ignores_tail P o .full g f tail stop hs
  rw [(decodeSpec_consumes P o .full (.inl rfl) g f stop hs).2, ← hlen, List.drop_length, List.nil_append] at a2
  rw [decodeChainedSpec_step, chainTurn_success (a1 ▸ hs), a1, a2, hf]

/-- A chain ends silently exactly when the input ends on a file boundary. -/
theorem chained_clean_end (P : Profile) (o : Opts) (fuel i : Nat) (hi : i ≠ 0) (acc : List FileSt) (g : Globals) :
    (decodeChainedSpec P o (fuel + 1) i acc g [] .eof).files = acc ∧
    (decodeChainedSpec P o (fuel + 1) i acc g [] .eof).err = none ∧
    (decodeChainedSpec P o (fuel + 1) i acc g [] .eof).panic = false := by
  have e := decodeProg_empty_eof P .full g { rest := [], stop := .eof, taken := 0 } rfl rfl
  have k := finalize_keeps o (runSpec (decodeProg P .full g) { rest := [], stop := .eof, taken := 0 }).1
  rw [decodeChainedSpec_step, chainTurn_err (out := (decodeSpec P o .full g [] .eof).1) (c := .ioerr) (k.panic.trans (congrArg (·.1.panic) e))
    (k.err.trans (congrArg (·.1.err) e)), if_pos ⟨k.cleanEOF.trans (congrArg (·.1.cleanEOF) e), hi⟩]
  exact ⟨rfl, rfl, rfl⟩

/-- a minimal valid file: 12-byte header, file_id definition and data (type = activity), file CRC -/
def minFile : Bytes := [12, 32, 67, 8, 11, 0, 0, 0, 46, 70, 73, 84, 64, 0, 0, 0, 0, 1, 0, 1, 0, 0, 4, 34, 103]

set_option maxRecDepth 100000 in
/-- `minFile` decodes successfully, is exactly one frame long, and holds a file -/
example : (decodeSpec Fit.Gen.profile {} .full {} minFile .eof).1.success ∧ minFile.length = frameLen minFile ∧
    (decodeSpec Fit.Gen.profile {} .full {} minFile .eof).1.st.file.isSome = true := by decide +kernel

set_option maxRecDepth 100000 in
/-- the chain over two copies yields two files and ends silently on the boundary; over two copies
    and one stray byte it yields the two files and an error -/
example :
    (decodeChainedSpec Fit.Gen.profile {} 5 0 [] {} (minFile ++ minFile) .eof).files.length = 2 ∧
    (decodeChainedSpec Fit.Gen.profile {} 5 0 [] {} (minFile ++ minFile) .eof).err = none ∧
    (decodeChainedSpec Fit.Gen.profile {} 5 0 [] {} (minFile ++ minFile ++ [14]) .eof).files.length = 2 ∧
    (decodeChainedSpec Fit.Gen.profile {} 5 0 [] {} (minFile ++ minFile ++ [14]) .eof).err.isSome = true := by
  decide +kernel

/-- **`DecodeHeader`, `DecodeHeaderAndFileID` and `Decode` agree.** On a well-formed frame (any of the
    three header layouts; a file_id definition and data record first; records that fit) that `Decode`
    accepts, with anything after it: `DecodeHeader` succeeds and reports the frame's header;
    `DecodeHeaderAndFileID` succeeds and returns that header together with the message of the first
    data record — the file_id the record machine holds at that point; and the File `Decode` returns
    carries the same header. (`Decode` reports that same file_id unless a later record of the stream
    is a file_id message again, which replaces it — `File.add`; the run compares the two on streams
    with one file_id record.) -/
theorem header_fileid_agree (P : Profile) (o : Opts) (k : HdrKind) (g : Globals) (proto profile : Nat)
    (d0 : DefMsg) (b0 : Bool) (fs dev : List Bytes) (rest : List Item) (tail : Bytes) (stop : Stop) (st1 st2 st' : DecSt)
    (hp : proto < 256) (hp2 : proto / 16 ≤ protoMajorMax)
    (hwf0 : DefnWF d0 b0) (hg : d0.global = mnFileId) (hkn : P.known mnFileId = true)
    (hlen : (serialize (.defn d0 b0 :: .data d0.localT fs dev :: rest)).length < 4294967296)
    (hfit : ItemsFitD P (List.replicate 16 none) (.defn d0 b0 :: .data d0.localT fs dev :: rest))
    (h1 : stepItem P (recState0 P k g proto profile (serialize (.defn d0 b0 :: .data d0.localT fs dev :: rest)).length)
      (.defn d0 b0) = .ok st1)
    (h2 : stepItem P st1 (.data d0.localT fs dev) = .ok st2)
    (hrun : runItems P (afterHeader k g proto profile (serialize (.defn d0 b0 :: .data d0.localT fs dev :: rest)).length).hdr g
      (.defn d0 b0 :: .data d0.localT fs dev :: rest)
      (afterHeader k g proto profile (serialize (.defn d0 b0 :: .data d0.localT fs dev :: rest)).length).crc = .ok st') :
    let data := frameBytesK k proto profile (serialize (.defn d0 b0 :: .data d0.localT fs dev :: rest)) ++ tail
    let H := (afterHeader k g proto profile (serialize (.defn d0 b0 :: .data d0.localT fs dev :: rest)).length).hdr
    (decodeSpec P o .headerOnly g data stop).1.success ∧
    (decodeSpec P o .headerOnly g data stop).1.st.hdr = H ∧
    (decodeSpec P o .fileIdOnly g data stop).1.success ∧
    (decodeSpec P o .fileIdOnly g data stop).1.st.file.map (·.hdr) = some H ∧
    (decodeSpec P o .fileIdOnly g data stop).1.st.file.map (·.fileId) = st2.file.map (·.fileId) ∧
    (decodeSpec P o .full g data stop).1.success ∧
    (decodeSpec P o .full g data stop).1.st.file.map (·.hdr) = some H := by
  intro data H
  have e1 := decode_frame_header_only P o k g proto profile (serialize (.defn d0 b0 :: .data d0.localT fs dev :: rest)) tail stop hp hp2
  have e2 := decode_frame_fileid_only P o k g proto profile d0 b0 fs dev rest tail stop st1 st2 hp hp2 hwf0 hg hkn hlen hfit h1 h2
  have e3 := decode_frame_ok P o k g proto profile d0 b0 fs dev rest tail stop st' hp hp2 hwf0 hg hkn hlen hfit hrun
  have hf2 : st2.fhdr = some H := by
    rw [(stepItem_spec h2).fhdr, (stepItem_spec h1).fhdr]
    rfl
  have hf' : st'.fhdr = some H := runItems_fhdr P _ g _ _ st' hrun
  refine ⟨?_, ?_, ?_, ?_, ?_, ?_, ?_⟩
  · show (decodeSpec P o .headerOnly g data stop).1.success
    rw [e1]; exact finalize_okOut_success o _
  · show (decodeSpec P o .headerOnly g data stop).1.st.hdr = H
    rw [e1, (finalize_keeps o _).hdr]; rfl
  · show (decodeSpec P o .fileIdOnly g data stop).1.success
    rw [e2]; exact finalize_okOut_success o _
  · show (decodeSpec P o .fileIdOnly g data stop).1.st.file.map (·.hdr) = some H
    rw [e2, (finalize_keeps o _).fhdr]; exact hf2
  · show (decodeSpec P o .fileIdOnly g data stop).1.st.file.map (·.fileId) = st2.file.map (·.fileId)
    rw [e2, (finalize_keeps o _).fileId]; rfl
  · show (decodeSpec P o .full g data stop).1.success
    rw [e3]; exact finalize_okOut_success o _
  · show (decodeSpec P o .full g data stop).1.st.file.map (·.hdr) = some H
    rw [e3, (finalize_keeps o _).fhdr]
    simp only [okOut, Option.map_map]
    exact hf'

end Fit.Props.C10
