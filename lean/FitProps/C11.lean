import FitModel.Decode
import FitProofs.Refine
import FitProofs.Frame
import FitProofs.Chain
import FitProofs.PartialFile
import FitProps.C01
/-!
  C11 — truncation and read faults never yield silent success.
-/
namespace Fit.Props.C11
open Fit

/-- a failed read inside the data area is never reported as a clean `io.EOF`: the reader ending
    gives "unexpected EOF", a reader error is passed on, exhausting the declared data size is a
    format error -/
theorem failed_buffered_read_is_error (e : RdStop) :
    bufErr e ≠ .eof ∧ (e = .eof → bufErr e = .ueof) ∧ (e = .fault → bufErr e = .fault) ∧
    (e = .limit → bufErr e = .format) := by
  cases e <;> simp [bufErr]

/-- every early exit of the record phase is an error or a panic, never a success -/
theorem early_exit_not_success (e : ErrExit) :
    e.toOutcome.err.isSome = true ∨ e.toOutcome.panic = true := by
  rw [e.toOutcome_eq]
  cases e.err <;> simp

/-- The stream ending or failing while the trailing CRC is read is an error. -/
theorem crc_read_failure_is_error (st : DecSt) (s : SpecSt) (h : s.rest.length < 2) :
    (runSpecT (checkCRC st) s).1.err.isSome = true := by
  rw [checkCRC_run, if_neg (by omega)]
  rfl

/-- `DecodeChained` stops without error only on a clean end of input exactly on a file boundary
    (the reader ends before the first header byte of a file that is not the first); any other
    failing decode is reported, with the partial file appended. -/
theorem chained_reports_errors (P : Profile) (o : Opts) (fuel i : Nat) (acc : List FileSt) (g : Globals)
    (r : Reader) (c : ErrClass)
    (hp : (decode P o .full g r).1.panic = false)
    (he : (decode P o .full g r).1.err = some c)
    (hb : ¬ ((decode P o .full g r).1.cleanEOF = true ∧ i ≠ 0)) :
    (decodeChained P o (fuel + 1) i acc g r).err = some c := by
  rw [decodeChained_step, chainTurn_err hp he, if_neg hb]

/-- the complement: a clean end on a file boundary ends the chain silently -/
theorem chained_clean_end (P : Profile) (o : Opts) (fuel i : Nat) (acc : List FileSt) (g : Globals)
    (r : Reader) (c : ErrClass)
    (hp : (decode P o .full g r).1.panic = false)
    (he : (decode P o .full g r).1.err = some c)
    (hb : (decode P o .full g r).1.cleanEOF = true ∧ i ≠ 0) :
    (decodeChained P o (fuel + 1) i acc g r).err = none ∧
    (decodeChained P o (fuel + 1) i acc g r).files = acc := by
  rw [decodeChained_step, chainTurn_err hp he, if_pos hb]
  exact ⟨rfl, rfl⟩

/-- **A stream shorter than the frame it declares is never a success**, for `Decode` and
    `CheckIntegrity`, whether the stream ends with EOF or with a reader error: truncation
    cannot be silent. -/
theorem short_input_never_succeeds (P : Profile) (o : Opts) (m : Mode) (hm : m = .full ∨ m = .crcOnly)
    (g : Globals) (data : Bytes) (stop : Stop) (hshort : data.length < frameLen data) :
    ¬ (decodeSpec P o m g data stop).1.success :=
  fun h => Nat.not_le_of_lt hshort (decodeSpec_consumes P o m hm g data stop h).1

/-- **Every cut is an error.** Cutting a stream anywhere before the end of the frame it
    declares (`k < frameLen full`) makes `Decode` and `CheckIntegrity` fail, at every one of the
    cut offsets and for both ways of ending (EOF, reader error). -/
theorem cut_is_error (P : Profile) (o : Opts) (m : Mode) (hm : m = .full ∨ m = .crcOnly)
    (g : Globals) (full : Bytes) (k : Nat) (stop : Stop) (hk : k < frameLen full) :
    ¬ (decodeSpec P o m g (full.take k) stop).1.success := by
  intro h
  have ⟨(h1 : frameLen (full.take k) ≤ (full.take k).length), (h14 : 14 ≤ frameLen (full.take k)), _⟩ :=
    decodeProg_consumes_frame P m hm g _ (decodeSpec_success.1 h)
  have hlen : (full.take k).length ≤ k := by rw [List.length_take]; omega
  by_cases h8 : 8 ≤ k
  · rw [frameLen_take full k h8] at h1
    omega
  · omega

/-- The same for the real, buffered run under any read schedule (by refinement). -/
theorem cut_is_error_buffered (P : Profile) (o : Opts) (m : Mode) (hm : m = .full ∨ m = .crcOnly)
    (g : Globals) (r : Reader) (full : Bytes) (k : Nat) (hd : r.data = full.take k) (hk : k < frameLen full) :
    ¬ (decode P o m g r).1.success := by
  rw [decode_out_eq_spec, hd]
  exact cut_is_error P o m hm g full k r.stop hk

/-- A chain cut inside a file is reported. If what is left of the stream is shorter than the
    frame it declares — and is not the clean end (no bytes left and EOF) — `DecodeChained` returns
    an error (or panics); it never returns silently. In particular an empty stream is an error for
    the first file, and a reader error is never swallowed, even exactly on a file boundary. -/
theorem chained_cut_is_error (P : Profile) (o : Opts) (fuel i : Nat) (acc : List FileSt) (g : Globals)
    (d : Bytes) (stop : Stop) (hshort : d.length < frameLen d)
    (hne : d ≠ [] ∨ stop = .fault ∨ i = 0) :
    (decodeChainedSpec P o (fuel + 1) i acc g d stop).err.isSome = true ∨
    (decodeChainedSpec P o (fuel + 1) i acc g d stop).panic = true := by
  cases hp : (decodeSpec P o .full g d stop).1.panic with
  | true => rw [decodeChainedSpec_step, chainTurn_panic hp]; exact .inr rfl
  | false =>
    cases he : (decodeSpec P o .full g d stop).1.err with
    | none => exact absurd ⟨he, hp⟩ (short_input_never_succeeds P o .full (.inl rfl) g d stop hshort)
    | some c =>
      rw [decodeChainedSpec_step, chainTurn_err hp he, if_neg]
      · exact .inl rfl
      · intro hc
        obtain ⟨h1, h2⟩ := decodeSpec_cleanEOF P o .full g d stop hc.1
        rcases hne with h | h | h
        · exact h h1
        · rw [h2] at h; cases h
        · exact hc.2 h

/-- A cut inside the header is an error for every entry point (DecodeHeader and
    DecodeHeaderAndFileID included): no mode succeeds on fewer bytes than the header size the first
    byte declares, nor on fewer than 12. -/
theorem header_cut_is_error (P : Profile) (o : Opts) (m : Mode) (g : Globals) (data : Bytes) (stop : Stop)
    (h : data.length < 12 ∨ data.length < (data.headD 0).toNat) :
    ¬ (decodeSpec P o m g data stop).1.success := by
  intro hs
  obtain ⟨size, st', hsz, hlen, hsize, _⟩ := decodeProg_success_header (decodeSpec_success.1 hs)
  dsimp only at hlen hsize
  rcases h with h | h
  · rcases hsz with rfl | rfl <;> omega
  · omega

theorem header_only_consumes_header (P : Profile) (o : Opts) (g : Globals) (data : Bytes) (stop : Stop)
    (hs : (decodeSpec P o .headerOnly g data stop).1.success) :
    (decodeSpec P o .headerOnly g data stop).2.taken = (data.headD 0).toNat := by
  obtain ⟨size, st', h⟩ := decodeProg_success_header (decodeSpec_success.1 hs)
  rw [decodeSpec_eq]
  rw [decodeProg_headerOnly h]
  exact (Nat.zero_add _).trans h.head

/-- **The partial File holds exactly the complete messages.** Take a frame as a FIT writer lays it
    out (a header of any of the three kinds readers accept, declaring the full record area, file_id definition and data record, further
    records) and cut it inside a record — after the complete records `done` and `j` bytes of the next
    record — ending the stream there with EOF or with a reader error, under any read schedule.
    If the item machine accepts the complete records, `Decode` returns an error, does not panic, and
    the File it returns has the file_id, file_creator, timestamp_correlation, container and slots
    (every message of every complete record, nothing of the cut one) that the item machine holds
    after `done`; the accumulators too.  (`hp`, `hlen`: the widths of the header's protocol and data-size fields.) -/
theorem partial_file_on_cut (P : Profile) (hwf : ProfileWF P = true) (o : Opts) (k : HdrKind) (g : Globals) (proto profile : Nat)
    (d0 : DefMsg) (b0 : Bool) (fs dev : List Bytes) (done : List Item) (it : Item) (more : List Item) (j : Nat)
    (r : Reader) (st1 : DecSt)
    (hp : proto < 256) (hp2 : proto / 16 ≤ protoMajorMax)
    (hwf0 : DefnWF d0 b0) (hg : d0.global = mnFileId) (hkn : P.known mnFileId = true)
    (hlen : (serialize (.defn d0 b0 :: .data d0.localT fs dev :: (done ++ it :: more))).length < 4294967296)
    (hfit : ItemsFitD P (List.replicate 16 none) (.defn d0 b0 :: .data d0.localT fs dev :: (done ++ it :: more)))
    (hrun : runItems P (afterHeader k g proto profile
      (serialize (.defn d0 b0 :: .data d0.localT fs dev :: (done ++ it :: more))).length).hdr g
      (.defn d0 b0 :: .data d0.localT fs dev :: done)
      (afterHeader k g proto profile
      (serialize (.defn d0 b0 :: .data d0.localT fs dev :: (done ++ it :: more))).length).crc = .ok st1)
    (hj : j < (serializeItem it).length)
    (hdata : r.data = (frameBytesK k proto profile (serialize (.defn d0 b0 :: .data d0.localT fs dev :: (done ++ it :: more)))).take
      (k.size + ((serialize (.defn d0 b0 :: .data d0.localT fs dev :: done)).length + j))) :
    (decode P o .full g r).1.err.isSome = true ∧ (decode P o .full g r).1.panic = false ∧
    (decode P o .full g r).1.st.glob = st1.glob ∧
    ∀ F1, st1.file = some F1 → ∃ F', (decode P o .full g r).1.st.file = some F' ∧ F'.sameContent F1 := by
  rw [decode_out_eq_spec, hdata]
  have hser : serialize (.defn d0 b0 :: .data d0.localT fs dev :: (done ++ it :: more)) =
      serialize (.defn d0 b0 :: .data d0.localT fs dev :: done) ++ (serializeItem it ++ serialize more) :=
    (serialize_append (_ :: _ :: done) (it :: more)).trans (congrArg _ (serialize_cons it more))
  rw [hser] at hlen hrun ⊢
  rw [frameBytesK_take _ _ _ _ _ _ _ (Nat.le_of_lt hj)]
  obtain ⟨e, he, hfe, _⟩ := decode_cut_partial P o k g proto profile d0 b0 fs dev done it more j r.stop st1 hp hp2 hwf0 hg hkn
    _ (congrArg List.length hser).symm hlen hfit hrun hj
  have hnp := he ▸ C01.decodeSpec_never_panics P hwf o .full g _ r.stop
  rw [he]
  have kp := finalize_keeps o e.toOutcome
  rw [kp.panic] at hnp
  rw [kp.err, kp.panic, kp.glob]
  -- an exit without an error class would be a panic
  obtain ⟨_ | c, st⟩ := e
  · cases hnp
  · refine ⟨rfl, rfl, congrArg Prod.snd hfe, fun F1 hF1 => ?_⟩
    exact (finalize_keeps o (fail st c)).content F1 ((congrArg Prod.fst hfe).trans hF1)

/-- The same for `DecodeChained`: when the chain reaches a frame cut inside a record, it stops
    with an error and returns the files decoded so far followed by the partial File of the cut
    frame — the messages of its complete records, nothing else. (With `chained_concat`, C10: for a
    chain of complete frames followed by a cut one, the result is the complete files, decoded one by
    one, and then this partial File.) -/
theorem chained_partial_on_cut (P : Profile) (hwf : ProfileWF P = true) (o : Opts) (k : HdrKind) (g : Globals) (proto profile : Nat)
    (d0 : DefMsg) (b0 : Bool) (fs dev : List Bytes) (done : List Item) (it : Item) (more : List Item) (j : Nat)
    (data : Bytes) (stop : Stop) (st1 : DecSt)
    (hp : proto < 256) (hp2 : proto / 16 ≤ protoMajorMax)
    (hwf0 : DefnWF d0 b0) (hg : d0.global = mnFileId) (hkn : P.known mnFileId = true)
    (hlen : (serialize (.defn d0 b0 :: .data d0.localT fs dev :: (done ++ it :: more))).length < 4294967296)
    (hfit : ItemsFitD P (List.replicate 16 none) (.defn d0 b0 :: .data d0.localT fs dev :: (done ++ it :: more)))
    (hrun : runItems P (afterHeader k g proto profile
      (serialize (.defn d0 b0 :: .data d0.localT fs dev :: (done ++ it :: more))).length).hdr g
      (.defn d0 b0 :: .data d0.localT fs dev :: done)
      (afterHeader k g proto profile
      (serialize (.defn d0 b0 :: .data d0.localT fs dev :: (done ++ it :: more))).length).crc = .ok st1)
    (hj : j < (serializeItem it).length)
    (hdata : data = (frameBytesK k proto profile (serialize (.defn d0 b0 :: .data d0.localT fs dev :: (done ++ it :: more)))).take
      (k.size + ((serialize (.defn d0 b0 :: .data d0.localT fs dev :: done)).length + j)))
    (fuel i : Nat) (acc : List FileSt) :
    (decodeChainedSpec P o (fuel + 1) i acc g data stop).err.isSome = true ∧
    (decodeChainedSpec P o (fuel + 1) i acc g data stop).panic = false ∧
    (decodeChainedSpec P o (fuel + 1) i acc g data stop).glob = st1.glob ∧
    ∀ F1, st1.file = some F1 → ∃ F', (decodeChainedSpec P o (fuel + 1) i acc g data stop).files = acc ++ [F'] ∧
      F'.sameContent F1 := by
  -- the buffered run of any reader over `data` is the specification run
  have h := partial_file_on_cut P hwf o k g proto profile d0 b0 fs dev done it more j ⟨data, stop, [], 0, false, 0⟩ st1
    hp hp2 hwf0 hg hkn hlen hfit hrun hj hdata
  rw [decode_out_eq_spec] at h
  obtain ⟨h1, h2, h3, h4⟩ := h
  have hne : data ≠ [] := by
    intro e
    rw [hdata, List.take_eq_nil_iff, frameBytesK_split] at e
    have := k.size_cases
    rcases e with e | e
    · omega
    · cases e
  have hnc : ¬ ((decodeSpec P o .full g data stop).1.cleanEOF = true ∧ i ≠ 0) := by
    intro hc
    exact hne (decodeSpec_cleanEOF P o .full g data stop hc.1).1
  cases he : (decodeSpec P o .full g data stop).1.err with
  | none => rw [he] at h1; cases h1
  | some c =>
    rw [decodeChainedSpec_step, chainTurn_err h2 he, if_neg hnc]
    refine ⟨by simp, by simp, h3, ?_⟩
    intro F1 hF1
    obtain ⟨F', hF', hs⟩ := h4 F1 hF1
    exact ⟨F', by rw [hF'], hs⟩

/-- a file_id definition with the one field `type` -/
def exDef : DefMsg := ⟨0, .le, 0, [⟨0, 1, 0⟩], []⟩
/-- a file_id data record: type = activity -/
def exRec : Item := .data 0 [[4]] []

def isOk : StepRes → Bool
  | .ok _ => true
  | .stop _ => false

theorem exDefs : defsAfter Gen.profile (List.replicate 16 none) (.defn exDef false) =
    setAt (List.replicate 16 none) 0 (some exDef) := by decide +kernel

theorem exFit : ItemsFitD Gen.profile (List.replicate 16 none) (.defn exDef false :: exRec :: ([exRec] ++ exRec :: [])) := by
  have hrec : ∀ dm, (setAt (List.replicate 16 (none : Option DefMsg)) 0 (some exDef)).getD 0 none = some dm →
      FieldsFit dm.fields [[4]] ∧ DevFit dm.dev [] := by
    intro dm h
    have : dm = exDef := by
      have h' : some exDef = some dm := h
      injection h' with h'
      exact h'.symm
    subst this
    exact ⟨⟨rfl, trivial⟩, trivial⟩
  refine ⟨⟨by decide, by decide, by decide, ?_, (fun h => by cases h), (fun h => by cases h)⟩, ?_⟩
  · intro f hf
    simp only [exDef, List.mem_singleton] at hf
    subst hf
    exact ⟨by decide, by decide, by decide⟩
  · rw [exDefs]
    exact ⟨⟨by decide, hrec⟩, ⟨by decide, hrec⟩, ⟨by decide, hrec⟩, trivial⟩

set_option maxRecDepth 100000 in
/-- the premises of `partial_file_on_cut` are satisfiable on the regenerated profile: a frame with a 12-byte header, a
    file_id definition and three file_id data records, cut one byte into the third, read through
    any reader with any options; `Decode` reports an error and returns a File -/
example (o : Opts) (r : Reader)
    (hdata : r.data = (frameBytesK .noCrc 0x20 2115 (serialize (.defn exDef false :: exRec :: ([exRec] ++ exRec :: [])))).take
      (12 + ((serialize (.defn exDef false :: exRec :: [exRec])).length + 1))) :
    (decode Gen.profile o .full {} r).1.err.isSome = true ∧ (decode Gen.profile o .full {} r).1.panic = false ∧
    (decode Gen.profile o .full {} r).1.st.file.isSome = true := by
  obtain ⟨res, hr⟩ : ∃ res, runItems Gen.profile (afterHeader .noCrc {} 0x20 2115
      (serialize (.defn exDef false :: exRec :: ([exRec] ++ exRec :: []))).length).hdr {}
      (.defn exDef false :: exRec :: [exRec])
      (afterHeader .noCrc {} 0x20 2115 (serialize (.defn exDef false :: exRec :: ([exRec] ++ exRec :: []))).length).crc = res :=
    ⟨_, rfl⟩
  have hok : isOk res = true ∧ (match (generalizing := false) res with
      | .ok st => st.file.isSome
      | .stop _ => false) = true := by
    rw [← hr]
    decide +kernel
  cases res with
  | stop _ => cases hok.1
  | ok st1 =>
    have hsome : st1.file.isSome = true := hok.2
    obtain ⟨h1, h2, _, h4⟩ := partial_file_on_cut Gen.profile C01.gen_wf o .noCrc {} 0x20 2115 exDef false [[4]] [] [exRec] exRec [] 1 r st1
      (by decide) (by decide) exFit.1 rfl (by decide +kernel) (by decide +kernel) exFit hr (by decide) hdata
    refine ⟨h1, h2, ?_⟩
    cases hf : st1.file with
    | none => rw [hf] at hsome; cases hsome
    | some F1 =>
      obtain ⟨F', hF', _⟩ := h4 F1 hf
      rw [hF']; rfl

end Fit.Props.C11
