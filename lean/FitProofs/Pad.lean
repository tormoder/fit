import FitProofs.Groups
/-
  Arrays shorter than the profile length (C06: "arrays are compared up to trailing invalid
  padding"). `Encode` fills an array field up to the profile's length with the base type's invalid
  value, and writes a field that is invalid in this message — but valid in another message of the
  same slice — as a filler; `Decode` returns what is on the wire. `wireMsg` is the message that
  comes back: the message that was encoded, with every array field the record carries padded to
  the profile length.
-/
namespace Fit

/-- an array value padded with the base type's invalid value up to the profile length; other
    values unchanged (float arrays too: `FieldFacts.nofloat` excludes them from profile fields) -/
def padVal (pf : PField) (v : Val) : Val :=
  if tcArray pf.tcode then
    match v with
    | .us xs => .us (some (xs.getD [] ++
        List.replicate (pf.length - (xs.getD []).length) (Base.invalidNat (tcBase pf.tcode))))
    | .is zs => .is (some (zs.getD [] ++
        List.replicate (pf.length - (zs.getD []).length) ((Base.invalidNat (tcBase pf.tcode) : Nat) : Int)))
    | v => v
  else v

theorem padVal_scalar (pf : PField) (v : Val) (h : tcArray pf.tcode = false) : padVal pf v = v := by
  simp [padVal, h]

theorem padVal_full (pf : PField) (xs : List Nat) (h : pf.length ≤ xs.length) : padVal pf (.us (some xs)) = .us (some xs) := by
  unfold padVal
  split
  · simp only [Option.getD_some]
    have : pf.length - xs.length = 0 := by omega
    rw [this]; simp
  · rfl

theorem padVal_us (pf : PField) (xs : Option (List Nat)) (h : tcArray pf.tcode = true) :
    padVal pf (.us xs) = .us (some (xs.getD [] ++
      List.replicate (pf.length - (xs.getD []).length) (Base.invalidNat (tcBase pf.tcode)))) := by
  unfold padVal; rw [if_pos h]

theorem padVal_is (pf : PField) (zs : Option (List Int)) (h : tcArray pf.tcode = true) :
    padVal pf (.is zs) = .is (some (zs.getD [] ++
      List.replicate (pf.length - (zs.getD []).length) ((Base.invalidNat (tcBase pf.tcode) : Nat) : Int))) := by
  unfold padVal; rw [if_pos h]

/-- does the definition written for the messages `ms` carry field `pf`? It does when the field is
    valid in one of them. -/
def onIn (pm : PMsg) (ms : List Msg) (pf : PField) : Bool :=
  ms.any fun m => !isInvalidVal pm pf.sindex (m.vals.getD pf.sindex (.u 0))

theorem onIn_iff {pm : PMsg} {ms : List Msg} {pf : PField} : onIn pm ms pf = true ↔ ∃ m ∈ ms, validIn pm m pf := by
  simp [onIn, validIn]

/-- the value at struct index `i` as it comes back: padded if a carried field sits there, else as it is -/
def wireVal (pm : PMsg) (ms : List Msg) (i : Nat) (v : Val) : Val :=
  match fieldBySindex pm i with
  | some pf => if onIn pm ms pf then padVal pf v else v
  | none => v

/-- what `Decode` returns for message `m` written under the definition shared by `ms` -/
def wireMsg (pm : PMsg) (ms : List Msg) (m : Msg) : Msg :=
  { m with vals := m.vals.mapIdx (wireVal pm ms) }

@[simp] theorem wireMsg_num (pm : PMsg) (ms : List Msg) (m : Msg) : (wireMsg pm ms m).num = m.num := rfl

theorem wireMsg_length (pm : PMsg) (ms : List Msg) (m : Msg) : (wireMsg pm ms m).vals.length = m.vals.length := by
  simp [wireMsg]

theorem wireMsg_getElem? (pm : PMsg) (ms : List Msg) (m : Msg) (i : Nat) :
    (wireMsg pm ms m).vals[i]? = (m.vals[i]?).map (wireVal pm ms i) := by
  simp [wireMsg, List.getElem?_mapIdx]

theorem wireVal_some {pm : PMsg} {i : Nat} {pf : PField} (hf : fieldBySindex pm i = some pf) (ms : List Msg) (v : Val) :
    wireVal pm ms i v = if onIn pm ms pf then padVal pf v else v := by
  unfold wireVal
  rw [hf]

/-- how a rebuilt record is recognised as `wireMsg`: `padVal` at the carried positions, `m`'s own elsewhere -/
theorem eq_wireMsg (pm : PMsg) (hf : MsgFacts pm) (ms : List Msg) (m : Msg) (fs : List PField)
    (hmem : ∀ pf ∈ fs, pf ∈ pm.fields) (hon : ∀ pf ∈ fs, onIn pm ms pf = true)
    (hoff : ∀ i pf, i < m.vals.length → fieldBySindex pm i = some pf → (∀ q ∈ fs, q.sindex ≠ i) → onIn pm ms pf = false)
    (vals' : List Val) (hl : vals'.length = m.vals.length)
    (h3 : ∀ pf ∈ fs, ∀ v, m.vals[pf.sindex]? = some v → vals'[pf.sindex]? = some (padVal pf v))
    (h4 : ∀ i, (∀ pf ∈ fs, pf.sindex ≠ i) → vals'[i]? = m.vals[i]?) :
    (⟨m.num, vals'⟩ : Msg) = wireMsg pm ms m := by
  have hw : wireMsg pm ms m = ⟨m.num, (wireMsg pm ms m).vals⟩ := rfl
  rw [hw, Msg.mk.injEq]
  refine ⟨rfl, List.ext_getElem? fun i => ?_⟩
  rw [wireMsg_getElem?]
  cases hv : m.vals[i]? with
  | none => exact List.getElem?_eq_none (hl ▸ List.getElem?_eq_none_iff.mp hv)
  | some v =>
    have hi := (List.getElem?_eq_some_iff.mp hv).1
    rw [Option.map_some]
    by_cases hc : ∃ pf ∈ fs, pf.sindex = i
    · obtain ⟨pf, hp, rfl⟩ := hc
      rw [h3 pf hp v hv, wireVal, fieldBySindex_of_mem hf (hmem pf hp)]
      simp only [hon pf hp, ↓reduceIte]
    · have hc' : ∀ q ∈ fs, q.sindex ≠ i := fun q hq e => hc ⟨q, hq, e⟩
      rw [h4 i hc', hv, wireVal]
      cases hf : fieldBySindex pm i with
      | none => rfl
      | some pf => simp only [hoff i pf hi hf hc', Bool.false_eq_true, ↓reduceIte]

/-- a message written alone (`encodeDefAndDataMesg`), as it comes back -/
def wire1 (P : Profile) (m : Msg) : Msg :=
  match P.msg? m.num with
  | some pm => wireMsg pm [m] m
  | none => m

/-- the messages of one container field, as they come back: a slice is written under one shared
    definition, a pointer field alone -/
def wireSlot (P : Profile) (many : Bool) (ms : List Msg) : List Msg :=
  match ms with
  | [] => []
  | m0 :: rest =>
    if many then
      match P.msg? m0.num with
      | some pm => (m0 :: rest).map (wireMsg pm (m0 :: rest))
      | none => m0 :: rest
    else wire1 P m0 :: rest

/-- the File as it comes back from `Decode (Encode f)`, before component expansion: every array
    field a record carries is padded with invalid values to the profile length -/
def wireFile (P : Profile) (c : Container) (f : FileSt) : FileSt :=
  { f with fileId := wire1 P f.fileId, creator := f.creator.map (wire1 P), tscorr := f.tscorr.map (wire1 P),
           slots := (c.slots.zip f.slots).map fun z => wireSlot P z.1.many z.2 }

@[simp] theorem wire1_num (P : Profile) (m : Msg) : (wire1 P m).num = m.num := by
  unfold wire1; split <;> rfl

theorem wireSlot_nums (P : Profile) (many : Bool) (ms : List Msg) (n : Nat) (h : ∀ m ∈ ms, m.num = n) :
    ∀ m ∈ wireSlot P many ms, m.num = n := by
  intro m hm
  unfold wireSlot at hm
  split at hm
  · cases hm
  · rename_i m0 rest
    split at hm
    · split at hm
      · simp only [List.mem_map] at hm
        obtain ⟨x, hx, rfl⟩ := hm
        rw [wireMsg_num]; exact h x hx
      · exact h m hm
    · cases hm with
      | head => rw [wire1_num]; exact h m0 (List.mem_cons_self ..)
      | tail _ hm' => exact h m (List.mem_cons_of_mem _ hm')

theorem wireSlot_length (P : Profile) (many : Bool) (ms : List Msg) : (wireSlot P many ms).length = ms.length := by
  unfold wireSlot
  split
  · rfl
  · split
    · split <;> simp
    · simp

theorem padVal_u_iff (pf : PField) (v : Val) (t : Nat) : padVal pf v = .u t ↔ v = .u t := by
  unfold padVal
  split
  · cases v <;> simp
  · rfl

theorem wireVal_u_iff (pm : PMsg) (ms : List Msg) (i : Nat) (v : Val) (t : Nat) : wireVal pm ms i v = .u t ↔ v = .u t := by
  unfold wireVal
  split
  · split
    · exact padVal_u_iff _ _ _
    · rfl
  · rfl

/-- `fileTypeOf` only asks whether the first value is a `.u t`; padding neither makes nor unmakes one -/
theorem fileTypeOf_wire (pm : PMsg) (ms : List Msg) (f : FileSt) (m : Msg) :
    fileTypeOf { f with fileId := wireMsg pm ms m } = fileTypeOf { f with fileId := m } := by
  unfold fileTypeOf
  simp only [wireMsg]
  cases hv : m.vals with
  | nil => rfl
  | cons v rest =>
    simp only [List.mapIdx_cons]
    cases hw : wireVal pm ms 0 v with
    | u t =>
      have := (wireVal_u_iff pm ms 0 v t).mp hw
      rw [this]
    | _ =>
      cases v with
      | u t =>
        have := (wireVal_u_iff pm ms 0 (.u t) t).mpr rfl
        rw [this] at hw; cases hw
      | _ => rfl

theorem wire1_of_msg? {P : Profile} {m : Msg} {pm : PMsg} (h : P.msg? m.num = some pm) :
    wire1 P m = wireMsg pm [m] m := by
  unfold wire1; rw [h]

theorem wireSlot_single (P : Profile) (m : Msg) : wireSlot P true [m] = [wire1 P m] := by
  unfold wireSlot wire1
  cases h : P.msg? m.num <;> simp [h]

theorem wireSlot_many {P : Profile} {m0 : Msg} {rest : List Msg} {pm : PMsg} (hpm : P.msg? m0.num = some pm) :
    wireSlot P true (m0 :: rest) = (m0 :: rest).map (wireMsg pm (m0 :: rest)) := by
  simp only [wireSlot, ↓reduceIte, hpm]

theorem wireSlot_one (P : Profile) (m0 : Msg) (rest : List Msg) : wireSlot P false (m0 :: rest) = wire1 P m0 :: rest := rfl

theorem wireVal_none {pm : PMsg} {i : Nat} (hf : fieldBySindex pm i = none) (ms : List Msg) (v : Val) :
    wireVal pm ms i v = v := by
  unfold wireVal
  rw [hf]

end Fit
