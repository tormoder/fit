import FitProofs.TypedFile
import FitProofs.NoPanic
/-
  Every File a successful `Decode` hands back is well typed: `FileTyped` is a property of Files that
  `File.add`, `File.init` and recording the file CRC keep, so the record phase keeps it (`full_success_file`).
-/
namespace Fit

theorem FileTyped.congr {P : Profile} {f f' : FileSt} (h : FileTyped P f) (e1 : f'.fileId = f.fileId)
    (e2 : f'.creator = f.creator) (e3 : f'.tscorr = f.tscorr) (e4 : f'.cidx = f.cidx) (e5 : f'.slots = f.slots)
    (e0 : f'.hdr = f.hdr) :
    FileTyped P f' :=
  ⟨by rw [e1]; exact h.fid, by rw [e2]; exact h.creator, by rw [e3]; exact h.tscorr, by rw [e4, e5]; exact h.slots,
    by
      rw [e4, fileTypeOf_congr e1]; exact h.ctype,
    by rw [e0]; exact h.hdr⟩

theorem zeroFileId_ok (P : Profile) (hwf : ProfileWF P = true) : MsgOK P (zeroFileId P) ∧ (zeroFileId P).num = mnFileId := by
  obtain ⟨pm, hpm, hk⟩ := Profile.known_msg (ProfileWF_facts hwf).fileId
  unfold zeroFileId
  rw [hpm]
  refine ⟨⟨pm, hpm, hk, by simp, ?_⟩, rfl⟩
  intro i k v hki hvi
  simp only [List.getElem?_map, hki, Option.map_some, Option.some.injEq] at hvi
  subst hvi
  exact zeroVal_ok k

theorem init_typed (P : Profile) (f f' : FileSt) (hf : FileTyped P f) (h : f.init P = .ok f') : FileTyped P f' := by
  obtain ⟨ci, hci, rfl⟩ := init_ok_iff.mp h
  refine ⟨hf.fid, hf.creator, hf.tscorr, ?_, fun i hi => by cases hi; exact hci, hf.hdr⟩
  intro i _ j ms hj x hx
  simp only [List.getElem?_replicate] at hj
  split at hj
  · cases hj; cases hx
  · cases hj

theorem FileTyped.inv (P : Profile) (hx : xokB P = true) (hfl : fidLayoutB P = true) : FileInv P (FileTyped P) :=
  ⟨fun f m g f' g' hf hm h => add_typed P hx hfl f m g f' g' hf hm h, init_typed P⟩

/-- the File in the state a successful run of `decodeProg` ends in, before `finalize` -/
theorem success_typed (P : Profile) (hwf : ProfileWF P = true) (hx : xokB P = true) (hfl : fidLayoutB P = true) (g : Globals) (s : SpecSt)
    (hs : (runSpec (decodeProg P .full g) s).1.success) :
    ∀ F, (runSpec (decodeProg P .full g) s).1.st.file = some F → FileTyped P F ∧ F.cidx.isSome = true := by
  obtain ⟨f, hf, hT, hc⟩ := full_success_file P hwf (FileTyped P) (FileTyped.inv P hx hfl)
    (fun h hleg => ⟨zeroFileId_ok P hwf, (fun _ h => by cases h), (fun _ h => by cases h), (fun _ h => by cases h),
      (fun _ h => by cases h), hleg⟩)
    (fun f crc hT => hT.congr rfl rfl rfl rfl rfl rfl) g s hs
  intro F hF
  rw [hf] at hF
  cases hF
  exact ⟨hT, hc⟩

theorem decodeSpec_file_typed (P : Profile) (hwf : ProfileWF P = true) (hx : xokB P = true) (hfl : fidLayoutB P = true)
    (o : Opts) (g : Globals) (d : Bytes) (stop : Stop) (hs : (decodeSpec P o .full g d stop).1.success) (F : FileSt)
    (hF : (decodeSpec P o .full g d stop).1.st.file = some F) : FileTyped P F ∧ F.cidx.isSome = true := by
  have ht := success_typed P hwf hx hfl g { rest := d, stop := stop, taken := 0 } (decodeSpec_success.1 hs)
  rw [decodeSpec_eq] at hF
  obtain ⟨F0, hf0⟩ := Option.isSome_iff_exists.mp ((finalize_keeps o _).isSome.symm.trans (by rw [hF]; rfl))
  obtain ⟨F', h1, h2⟩ := (finalize_keeps o _).content F0 hf0
  rw [h1] at hF
  cases hF
  obtain ⟨e1, _, e3, e4, e5, _, _, e8, e9⟩ := h2
  obtain ⟨t1, t2⟩ := ht F0 hf0
  exact ⟨t1.congr e3 e4 e5 e8 e9 e1, by rw [e8]; exact t2⟩

end Fit
