import FitProofs.FieldValue
import FitProofs.WF
/-
  Value and field level of C07's first clause: what the decoder stores in a struct field has the
  field's Go type (`ValOK`), so one field keeps the message under construction well typed, and the
  constructor's all-invalid message is well typed.  (In Go this is the type system's; in the model,
  where message values are untyped lists, it is an invariant of the decoder.)
-/
namespace Fit

/-- value `v` has the Go type of a struct field of kind `k` -/
def ValOK : SlotKind → Val → Bool
  | .sc (.u _), .u _ => true
  | .sc (.i _), .i _ => true
  | .sc (.f _), .f _ => true
  | .sc .s, .s _ => true
  | .sl (.u _), .us _ => true
  | .sl (.i _), .is _ => true
  | .sl (.f _), .fs _ => true
  | .sl .s, .ss _ => true
  | .time, .t _ _ _ => true
  | .lat, .lat _ => true
  | .lng, .lng _ => true
  | .other, _ => true
  | _, _ => false

theorem zeroVal_ok (k : SlotKind) : ValOK k (zeroVal k) = true := by
  cases k with
  | sc e => cases e <;> rfl
  | sl e => cases e <;> rfl
  | _ => rfl

theorem setUint_ok {k : SlotKind} {x : Nat} {v : Val} (h : setUint k x = some v) : ValOK k v = true := by
  unfold setUint at h
  split at h
  · cases h; rfl
  · cases h

theorem setInt_ok {k : SlotKind} {x : Int} {v : Val} (h : setInt k x = some v) : ValOK k v = true := by
  unfold setInt at h
  split at h
  · cases h; rfl
  · cases h

theorem setFloat_ok {k : SlotKind} {x : Nat} {v : Val} (h : setFloat k x = some v) : ValOK k v = true := by
  unfold setFloat at h
  split at h
  · cases h; rfl
  · cases h

theorem parseFitField_ok {arch : Endian} {fd : FieldDef} {k : SlotKind} {tmp : Bytes} {v : Val}
    (h : parseFitField arch fd k tmp = .ok (some v)) : ValOK k v = true := by
  by_cases hp : fd.btype ∈ Base.parsed
  · rw [parseFitField_eq hp] at h
    split at h
    · split at h
      · cases h
      · split at h
        · cases h; rfl
        · cases h
    · split at h
      · cases h
      · have hs := FieldRes.ofSet_inv h
        split at hs
        · exact setFloat_ok hs
        · split at hs
          · exact setInt_ok hs
          · exact setUint_ok hs
  · rw [parseFitField_err hp] at h
    cases h

theorem arrayOf_ok {arch : Endian} {ek : Sc} {w : Nat} {tmp : Bytes} {set : Nat → Option Val} {v : Val}
    (h : arrayOf arch ek w tmp set = .ok (some v)) : ValOK (.sl ek) v = true := by
  unfold arrayOf sliceOf at h
  split at h
  · cases ek <;> cases h <;> rfl
  · cases h

theorem parseFitFieldArray_ok {arch : Endian} {fd : FieldDef} {k : SlotKind} {tmp : Bytes} {v : Val}
    (h : parseFitFieldArray arch fd k tmp = .ok (some v)) : ValOK k v = true := by
  by_cases hp : fd.btype ∈ Base.parsed
  · rw [parseFitFieldArray_eq hp] at h
    split at h
    · split at h
      · cases h; rfl
      · cases h
    · split at h
      · split at h
        · split at h
          · cases h
          · split at h
            · cases h; rfl
            · cases h
        · exact arrayOf_ok h
      · cases h
  · rw [parseFitFieldArray_err hp] at h
    split at h
    · split at h <;> cases h
    · cases h

def ValsOK (layout : List SlotKind) (vals : List Val) : Prop :=
  vals.length = layout.length ∧ ∀ (i : Nat) (k : SlotKind) (v : Val), layout[i]? = some k → vals[i]? = some v → ValOK k v = true

theorem ValsOK.set {layout : List SlotKind} {vals : List Val} (h : ValsOK layout vals) (i : Nat) (k : SlotKind) (v : Val)
    (hk : layout[i]? = some k) (hv : ValOK k v = true) : ValsOK layout (setAt vals i v) := by
  refine ⟨by rw [length_setAt]; exact h.1, ?_⟩
  intro j kj w hkj hw
  by_cases e : i = j
  · subst e
    have hlt : i < vals.length := by
      rw [h.1]; exact (List.getElem?_eq_some_iff.mp hk).1
    rw [getElem?_setAt_self _ _ _ hlt] at hw
    cases hw
    rw [hk] at hkj
    cases hkj
    exact hv
  · rw [getElem?_setAt_ne _ _ _ _ e] at hw
    exact h.2 j kj w hkj hw

theorem parseTimeStamp_ok {ts : TsRef} {pf : PField} {u : Nat} {v : Val} (h : (parseTimeStamp ts pf u).1 = some v) :
    ValOK .time v = true := by
  by_cases hu : u = 0xFFFFFFFF
  · rw [hu, parseTimeStamp_invalid] at h
    cases h
  · by_cases hk : tcKind pf.tcode = .timeUTC
    · rw [parseTimeStamp_utc ts pf u hk hu] at h
      cases h
      rfl
    · rw [parseTimeStamp_local ts pf u hk hu] at h
      cases h
      split <;> rfl

/-- a value of another Go type would have been a reflection panic, not `.ok` -/
theorem tmpValue_ok {dm : DefMsg} {fd : FieldDef} {pf : PField} {k : SlotKind} {tmp : Bytes} {ts ts' : TsRef}
    {v : Val} (h : tmpValue dm fd pf k tmp ts = (.ok (some v), ts')) : ValOK k v = true := by
  unfold tmpValue at h
  revert h
  cases tcKind pf.tcode with
  | native =>
    intro h
    injection h with h _
    split at h
    · exact parseFitField_ok h
    · exact parseFitFieldArray_ok h
  | timeUTC | timeLocal =>
    intro h
    dsimp only at h
    split at h
    · cases h
    · split at h
      · cases h
      · rename_i hnot
        have hv : (parseTimeStamp ts pf (dm.arch.dec (tmp.take 4))).1 = some v := by
          injection h with h1 _; injection h1
        have hk : k = .time := Decidable.byContradiction fun e => hnot ⟨by rw [hv]; rfl, e⟩
        rw [hk]
        exact parseTimeStamp_ok hv
  | lat | lng =>
    intro h
    dsimp only at h
    split at h
    · cases h
    · split at h
      · cases h
      · rename_i hk
        cases h
        rw [Decidable.not_not.mp hk]
        rfl
  | unknown n =>
    intro h
    cases h

theorem fieldValue_ok {dm : DefMsg} {fd : FieldDef} {pf : PField} {k : SlotKind} {raw : Bytes} {ts ts' : TsRef}
    {v : Val} (h : fieldValue dm fd pf k raw ts = (.ok (some v), ts')) : ValOK k v = true := by
  unfold fieldValue at h
  exact tmpValue_ok h

theorem applyField_typed (P : Profile) (dm : DefMsg) (known : Bool) (fd : FieldDef) (raw : Bytes) (msg : Msg) (ts : TsRef)
    (pm : PMsg) (hpm : P.msg? dm.global = some pm) (hok : ValsOK pm.layout msg.vals)
    (m' : Option Msg) (ts' : TsRef) (h : applyField P dm known fd raw (some msg) ts = .ok m' ts') :
    ∃ msg', m' = some msg' ∧ ValsOK pm.layout msg'.vals ∧ msg'.num = msg.num := by
  rcases applyField_inv h with rfl | ⟨pf, pm', k, v, _, hpm', hk, hv, rfl⟩
  · exact ⟨msg, rfl, hok, rfl⟩
  · rw [hpm] at hpm'
    cases hpm'
    exact ⟨_, rfl, hok.set pf.sindex k v hk (fieldValue_ok hv), rfl⟩

/-- of a known type, and well typed -/
def MsgOK (P : Profile) (m : Msg) : Prop :=
  ∃ pm, P.msg? m.num = some pm ∧ pm.known = true ∧ ValsOK pm.layout m.vals

theorem invalidOfType_ok {t : Nat} {k : SlotKind} {v : Val} (hk : slotOfType t = some k) (hv : invalidOfType t = some v) :
    ValOK k v = true := by
  unfold slotOfType at hk
  unfold invalidOfType at hv
  cases hkind : tcKind t with
  | native =>
    rw [hkind] at hk hv
    simp only at hk hv
    cases hs : scOfBase (tcBase t) with
    | none => rw [hs] at hk; cases hk
    | some sc =>
      rw [hs] at hk hv
      simp only at hk hv
      cases hk
      cases sc <;> (simp only at hv; cases hv; split <;> rfl)
  | timeUTC | timeLocal | lat | lng =>
    rw [hkind] at hk hv
    simp only at hk hv
    split at hk <;> cases hk
    cases hv
    rfl
  | unknown n => rw [hkind] at hk; cases hk

theorem msgWF_known (pm : PMsg) (h : msgWF pm = true) (hk : pm.known = true) :
    pm.hasType = true ∧ pm.hasCtor = true ∧ pm.invalid.length = pm.layout.length ∧
    ∀ i, i < pm.layout.length → ∃ pf ∈ pm.fields, pf.sindex = i :=
  have f := msgWF_facts h
  ⟨(f.known hk).2.1, (f.known hk).2.2, f.invLen (f.known hk).2.1 (f.known hk).2.2, f.cover hk⟩

theorem MsgFacts.invalid_typed {pm : PMsg} (f : MsgFacts pm) (hk : pm.known = true) : ValsOK pm.layout pm.invalid := by
  refine ⟨f.invLen (f.known hk).2.1 (f.known hk).2.2, ?_⟩
  intro i k v hki hvi
  have hi : i < pm.layout.length := (List.getElem?_eq_some_iff.mp hki).1
  obtain ⟨pf, hpf, hsi⟩ := f.cover hk i hi
  obtain ⟨k', hk1, hk2⟩ := (f.fieldFacts pf hpf).slot
  obtain ⟨v', hv1, hv2⟩ := f.fieldInvalid pf hpf
  rw [hsi] at hk1 hv1
  rw [hki] at hk1
  rw [hvi] at hv1
  cases hk1
  cases hv1
  exact invalidOfType_ok hk2 hv2

theorem invalid_typed (pm : PMsg) (h : msgWF pm = true) (hk : pm.known = true) : ValsOK pm.layout pm.invalid :=
  (msgWF_facts h).invalid_typed hk

end Fit
