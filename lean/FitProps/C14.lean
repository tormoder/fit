import FitProofs.Crc
/-!
  C14 — the checksum is CRC-16/ARC and does not depend on how data is fed.
  Statements only use definitions of `FitModel.Crc` (the model of dyncrc16.go).
-/
namespace Fit.Props.C14
open Fit.Crc

/-- Every (state, byte) transition of the table implementation equals eight steps of the
    reflected bit-serial register with polynomial 0xA001. -/
theorem updateByte_eq_spec (c : BitVec 16) (b : BitVec 8) : updateByte c b = specByte c b :=
  updateByte_eq_specByte c b

/-- For every byte sequence the package checksum is the bit-serial CRC with zero initial value. -/
theorem checksum_eq_spec (d : List UInt8) : checksum d = specChecksum d :=
  update_eq_specUpdate 0#16 d

/-- Any split of the data into successive writes gives the same sum as a single write. -/
theorem write_split (h : Hash) (parts : List (List UInt8)) :
    (parts.foldl Hash.write h).sum16 = (h.write parts.flatten).sum16 := by
  induction parts generalizing h with
  | nil => simp [Hash.write, update]
  | cons p ps ih =>
    simp only [List.foldl_cons, List.flatten_cons]
    rw [ih]
    simp [Hash.write, update_append]

/-- A fresh or reset object is in the initial state and then computes `Checksum`. -/
theorem reset_initial (h : Hash) (d : List UInt8) :
    (h.reset).sum16 = 0#16 ∧ Hash.new.sum16 = 0#16 ∧ ((h.reset).write d).sum16 = checksum d := by
  simp [Hash.reset, Hash.new, Hash.sum16, Hash.write, checksum]

/-- Residue rule: appending the current sum little-endian drives the register to zero,
    from any starting state (in particular `checksum (d ++ [lo, hi]) = 0`). -/
theorem residue_from (c0 : BitVec 16) (d : List UInt8) :
    update c0 (d ++ [lo (update c0 d), hi (update c0 d)]) = 0#16 :=
  Crc.residue_from c0 d

theorem residue (d : List UInt8) : checksum (d ++ [lo (checksum d), hi (checksum d)]) = 0#16 :=
  residue_from 0#16 d

/-- non-vacuity / sanity: the standard check value of CRC-16/ARC ("123456789" ↦ 0xBB3D). -/
example : checksum [0x31, 0x32, 0x33, 0x34, 0x35, 0x36, 0x37, 0x38, 0x39] = 0xBB3D#16 := by decide

end Fit.Props.C14
