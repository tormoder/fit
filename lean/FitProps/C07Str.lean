import FitProps.C07Ok
/-!
  `Encode` *fails* on a well-typed File only through a string field (finding D13): every other
  value a decoded File can hold is written without error, provided no message the File can hold has
  a string-array field (`Encode` refuses those; checked on the regenerated profile).
-/
namespace Fit
open Fit.Props.C06

theorem tcBase_of_sc_s (t : Nat) (h : scOfBase (tcBase t) = some .s) : tcBase t = Base.string := by
  have hk : Base.index (tcBase t) < Base.nNames := by
    unfold scOfBase at h
    split at h <;> first | (cases h; done) | (rename_i e; rw [e]; decide)
  rw [scOfBase_eq _ hk] at h
  by_cases h7 : Base.index (tcBase t) = 7
  · exact Classical.byContradiction fun hne => tcBase_index_ne_7 hne h7
  · rw [if_neg h7] at h
    split at h
    · cases h
    · split at h <;> cases h

/-- **`writeField` on a value of the field's Go type fails only for a string that does not re-encode**
    (and for arrays of strings, which no message a File holds has) -/
theorem writeField_typed_no_error (arch : Endian) (pm : PMsg) (pf : PField) (k : SlotKind) (v : Val)
    (facts : FieldFacts pm pf) (hk : pm.layout[pf.sindex]? = some k) (hv : ValOK k v = true)
    (hnsa : ¬ (tcArray pf.tcode = true ∧ tcBase pf.tcode = Base.string))
    (hstr : ∀ b, v = .s b → ∃ bs, encodeString b pf.length = .ok bs) :
    writeField arch pf k v ≠ .error .error := by
  intro h
  rcases (writeField_typed_error arch pm pf k v facts hk hv .error h).2 with hsa | ⟨b, rfl, he⟩
  · exact hnsa hsa
  · obtain ⟨bs, hbs⟩ := hstr b rfl
    rw [hbs] at he
    cases he

/-- every string the message holds re-encodes (valid UTF-8 after the cut to the field size) -/
def StringsEncode (pm : PMsg) (m : Msg) : Prop :=
  ∀ pf ∈ pm.fields, ∀ b, m.vals[pf.sindex]? = some (.s b) → ∃ bs, encodeString b pf.length = .ok bs

def stringsEncodeB (pm : PMsg) (m : Msg) : Bool :=
  pm.fields.all fun pf =>
    match m.vals[pf.sindex]? with
    | some (.s b) => (match encodeString b pf.length with | .ok _ => true | .error _ => false)
    | _ => true

theorem stringsEncodeB_sound (pm : PMsg) (m : Msg) (h : stringsEncodeB pm m = true) : StringsEncode pm m := by
  unfold stringsEncodeB at h
  rw [List.all_eq_true] at h
  intro pf hp b hb
  have := h pf hp
  rw [hb] at this
  simp only at this
  cases he : encodeString b pf.length with
  | ok bs => exact ⟨bs, rfl⟩
  | error e => rw [he] at this; cases this

/-- the message type has no field that is an array of strings (`Encode` refuses those) -/
def noStrArrB (pm : PMsg) : Bool :=
  pm.fields.all fun pf => !(tcArray pf.tcode && tcBase pf.tcode == Base.string)

theorem noStrArrB_sound (pm : PMsg) (h : noStrArrB pm = true) (pf : PField) (hp : pf ∈ pm.fields) :
    ¬ (tcArray pf.tcode = true ∧ tcBase pf.tcode = Base.string) := by
  unfold noStrArrB at h
  rw [List.all_eq_true] at h
  have := h pf hp
  intro ⟨h1, h2⟩
  simp [h1, h2] at this

def MsgEncodes (P : Profile) (m : Msg) : Prop :=
  ∀ pm, P.msg? m.num = some pm → noStrArrB pm = true ∧ StringsEncode pm m

theorem encodeGroup_typed_no_error (P : Profile) (hwf : ProfileWF P = true) (arch : Endian) (ms : List Msg)
    (hm : ∀ m ∈ ms, MsgOK P m) (hnum : ∀ m ∈ ms, ∀ m' ∈ ms, m.num = m'.num) (he : ∀ m ∈ ms, MsgEncodes P m) :
    encodeGroup P arch ms ≠ .error .error := by
  cases ms with
  | nil => exact encodeGroup_nil_ne
  | cons m0 rest =>
    refine encodeGroup_typed_ne_error P hwf arch hm hnum fun pm hpm hmw m hmem hv pf hp hw => ?_
    obtain ⟨h1, h2⟩ := he m hmem pm (by rw [hnum m hmem m0 (List.mem_cons_self ..)]; exact hpm)
    rcases (fieldWrite_typed_error arch pm hmw m hv pf hp .error hw).2 with hsa | ⟨b, hb, heb⟩
    · exact noStrArrB_sound pm h1 pf hp hsa
    · obtain ⟨bs, hbs⟩ := h2 pf hp b hb
      rw [hbs] at heb
      cases heb

def FileEncodes (P : Profile) (f : FileSt) : Prop :=
  MsgEncodes P f.fileId ∧ (∀ m, f.creator = some m → MsgEncodes P m) ∧ (∀ m, f.tscorr = some m → MsgEncodes P m) ∧
  ∀ ms ∈ f.slots, ∀ m ∈ ms, MsgEncodes P m

/-- **`Encode` succeeds on a well-typed File whose strings re-encode** (and whose message types have
    no string-array field): it cannot panic (`encode_no_panic`) and it cannot fail -/
theorem encode_typed_ok (P : Profile) (hwf : ProfileWF P = true) (arch : Endian) (f : FileSt) (hf : FileTyped P f)
    (hc : f.cidx.isSome = true) (he : FileEncodes P f) : ∃ bs f', encode P arch f = .ok bs f' := by
  obtain ⟨i, hi⟩ := Option.isSome_iff_exists.mp hc
  obtain ⟨e1, e2, e3, e4⟩ := he
  have hbody : encodeBody P arch f (P.containers.getD i default) ≠ .error .error :=
    encodeBody_ne_error hwf fun g hg => encodeGroup_typed_no_error P hwf arch g (hf.groups hi hg).1 (hf.groups hi hg).2
      fun m hm => by
        rcases restGroups_mem hg hm with (rfl | h | h) | ⟨s, hs, h⟩
        · exact e1
        · exact e2 m h
        · exact e3 m h
        · exact e4 s hs m h
  cases he : encode P arch f with
  | ok bs f' => exact ⟨bs, f', rfl⟩
  | error => exact absurd ((encodeBody_of_fail hi (hf.ctype i hi)).2 he) hbody
  | panic => exact absurd he (encode_no_panic P hwf arch f hf hc)

/-- no message type a File can hold — file_id, file_creator, timestamp_correlation and the element
    types of every container — has a string-array field -/
def heldNoStrArrB (P : Profile) : Bool :=
  ([mnFileId, mnFileCreator, mnTimestampCorrelation] ++ P.containers.flatMap (fun c => c.slots.map (·.msg))).all fun n =>
    match P.msg? n with
    | some pm => noStrArrB pm
    | none => true

theorem heldNoStrArrB_msg (P : Profile) (h : heldNoStrArrB P = true) (n : Nat)
    (hn : n ∈ [mnFileId, mnFileCreator, mnTimestampCorrelation] ++ P.containers.flatMap (fun c => c.slots.map (·.msg)))
    (pm : PMsg) (hpm : P.msg? n = some pm) : noStrArrB pm = true := by
  unfold heldNoStrArrB at h
  rw [List.all_eq_true] at h
  have := h n hn
  rw [hpm] at this
  exact this

theorem slot_msg_held (P : Profile) (i j : Nat) :
    ((P.containers.getD i default).slots.getD j default).msg ∈
      [mnFileId, mnFileCreator, mnTimestampCorrelation] ++ P.containers.flatMap (fun c => c.slots.map (·.msg)) := by
  rw [List.getD_eq_getElem?_getD, List.getD_eq_getElem?_getD]
  cases hc : P.containers[i]? with
  | none => exact List.mem_append_left _ (List.mem_cons_self ..)
  | some c =>
    rw [Option.getD_some]
    cases hs : c.slots[j]? with
    | none => exact List.mem_append_left _ (List.mem_cons_self ..)
    | some s =>
      exact List.mem_append_right _ (List.mem_flatMap.mpr
        ⟨c, List.mem_of_getElem? hc, List.mem_map.mpr ⟨s, List.mem_of_getElem? hs, rfl⟩⟩)

/-- every string of the File re-encodes: file_id, file_creator, timestamp_correlation, the container's messages -/
def FileStringsEncode (P : Profile) (f : FileSt) : Prop :=
  (∀ pm, P.msg? f.fileId.num = some pm → StringsEncode pm f.fileId) ∧
  (∀ m, f.creator = some m → ∀ pm, P.msg? m.num = some pm → StringsEncode pm m) ∧
  (∀ m, f.tscorr = some m → ∀ pm, P.msg? m.num = some pm → StringsEncode pm m) ∧
  (∀ ms ∈ f.slots, ∀ m ∈ ms, ∀ pm, P.msg? m.num = some pm → StringsEncode pm m)

theorem encode_typed_ok_strings (P : Profile) (hwf : ProfileWF P = true) (hheld : heldNoStrArrB P = true)
    (arch : Endian) (f : FileSt) (hf : FileTyped P f) (hc : f.cidx.isSome = true) (hstr : FileStringsEncode P f) :
    ∃ bs f', encode P arch f = .ok bs f' := by
  obtain ⟨i, hi⟩ := Option.isSome_iff_exists.mp hc
  obtain ⟨s1, s2, s3, s4⟩ := hstr
  apply encode_typed_ok P hwf arch f hf hc
  refine ⟨?_, ?_, ?_, ?_⟩
  · intro pm hpm
    refine ⟨heldNoStrArrB_msg P hheld f.fileId.num ?_ pm hpm, s1 pm hpm⟩
    rw [hf.fid.2]; exact List.mem_append_left _ (List.mem_cons_self ..)
  · intro m hm pm hpm
    refine ⟨heldNoStrArrB_msg P hheld m.num ?_ pm hpm, s2 m hm pm hpm⟩
    rw [(hf.creator m hm).2]; exact List.mem_append_left _ (by simp)
  · intro m hm pm hpm
    refine ⟨heldNoStrArrB_msg P hheld m.num ?_ pm hpm, s3 m hm pm hpm⟩
    rw [(hf.tscorr m hm).2]; exact List.mem_append_left _ (by simp)
  · intro ms hms m hm pm hpm
    refine ⟨heldNoStrArrB_msg P hheld m.num ?_ pm hpm, s4 ms hms m hm pm hpm⟩
    obtain ⟨j, hj⟩ := List.mem_iff_getElem?.mp hms
    rw [(hf.slots i hi j ms hj m hm).2]
    exact slot_msg_held P i j

end Fit
