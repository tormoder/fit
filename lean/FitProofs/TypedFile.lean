import FitProofs.TypedExpand
import FitProofs.Frame
/-
  Well-typed Files: `File.add` keeps a File well typed and every container slot homogeneous.
-/
namespace Fit

def SlotsOK (P : Profile) (c : Container) (slots : List (List Msg)) : Prop :=
  ∀ (i : Nat) (ms : List Msg), slots[i]? = some ms → ∀ m ∈ ms, MsgOK P m ∧ m.num = (c.slots.getD i default).msg

structure FileTyped (P : Profile) (f : FileSt) : Prop where
  fid : MsgOK P f.fileId ∧ f.fileId.num = mnFileId
  creator : ∀ m, f.creator = some m → MsgOK P m ∧ m.num = mnFileCreator
  tscorr : ∀ m, f.tscorr = some m → MsgOK P m ∧ m.num = mnTimestampCorrelation
  slots : ∀ i, f.cidx = some i → SlotsOK P (P.containers.getD i default) f.slots
  /-- the attached container is the one the file type in file_id selects -/
  ctype : ∀ i, f.cidx = some i → P.initAns (fileTypeOf f) = .container i
  /-- the header is one `decodeHeader` accepted -/
  hdr : HdrLegal f.hdr

/-- the file_id struct has at least one field (its first field is the file type) -/
def fidLayoutB (P : Profile) : Bool :=
  match P.msg? mnFileId with
  | some pm => !pm.layout.isEmpty
  | none => true

theorem fid_vals_ne (P : Profile) (hfl : fidLayoutB P = true) (m : Msg) (hm : MsgOK P m) (hn : m.num = mnFileId) :
    m.vals ≠ [] := by
  obtain ⟨pm, hpm, _, hv⟩ := hm
  rw [hn] at hpm
  unfold fidLayoutB at hfl
  rw [hpm] at hfl
  simp only at hfl
  intro e
  have hl := hv.1
  rw [e] at hl
  rw [List.eq_nil_of_length_eq_zero hl.symm] at hfl
  cases hfl

theorem SlotsOK.add (P : Profile) (c : Container) (slots : List (List Msg)) (h : SlotsOK P c slots) (i : Nat) (m : Msg)
    (hm : MsgOK P m) (hn : m.num = (c.slots.getD i default).msg) (many : Bool) :
    SlotsOK P c (setAt slots i (if many then slots.getD i [] ++ [m] else [m])) := by
  intro j ms hj x hx
  by_cases e : i = j
  · subst e
    by_cases hlt : i < slots.length
    · rw [getElem?_setAt_self _ _ _ hlt] at hj
      cases hj
      cases many with
      | true =>
        simp only [↓reduceIte, List.mem_append, List.mem_singleton] at hx
        rcases hx with hx | hx
        · have hs : slots[i]? = some (slots.getD i []) := by
            rw [List.getD_eq_getElem?_getD, List.getElem?_eq_getElem hlt]; rfl
          exact h i _ hs x hx
        · subst hx; exact ⟨hm, hn⟩
      | false =>
        simp only [Bool.false_eq_true, ↓reduceIte, List.mem_singleton] at hx
        subst hx; exact ⟨hm, hn⟩
    · have : (setAt slots i (if many then slots.getD i [] ++ [m] else [m]))[i]? = none := by
        apply List.getElem?_eq_none
        rw [length_setAt]; omega
      rw [this] at hj; cases hj
  · rw [getElem?_setAt_ne _ _ _ _ e] at hj
    exact h j ms hj x hx

theorem expandMsg_typed (P : Profile) (hx : xokB P = true) (m : Msg) (g : Globals) (hm : MsgOK P m) :
    MsgOK P (expandMsg P m g).1 ∧ (expandMsg P m g).1.num = m.num := by
  rw [expandMsg_eq_expand]
  exact ⟨expand_typed P hx m g hm, expand_num P m g⟩

theorem add_typed (P : Profile) (hx : xokB P = true) (hfl : fidLayoutB P = true) (f : FileSt) (m : Msg) (g : Globals) (f' : FileSt) (g' : Globals)
    (hf : FileTyped P f) (hm : MsgOK P m) (h : f.add P m g = some (f', g')) : FileTyped P f' := by
  cases add_iff.mp h with
  | fileId hnum =>
    refine ⟨?_, hf.creator, hf.tscorr, hf.slots, fun i hi => ?_, hf.hdr⟩
    · -- the first value (the file type) is kept once the container is attached
      rcases fidKept_cases f m with e | ⟨ci, mv, mrest, t, trest, hc, hmv, hfv, e⟩ <;> rw [e]
      · exact ⟨hm, hnum⟩
      · obtain ⟨pm, hpm, hk, hv⟩ := hm
        obtain ⟨pm0, hpm0, _, hv0⟩ := hf.fid.1
        rw [hf.fid.2, ← hnum, hpm] at hpm0
        cases hpm0
        refine ⟨⟨pm, hpm, hk, by rw [← hv.1, hmv]; rfl, fun j k x hk hx => ?_⟩, hnum⟩
        cases j with
        | zero => cases hx; exact hv0.2 0 k t hk (by rw [hfv]; rfl)
        | succ j => exact hv.2 (j + 1) k x hk (by rw [hmv]; exact hx)
    · rw [fileTypeOf_fidKept (f := f) hi (fid_vals_ne P hfl f.fileId hf.fid.1 hf.fid.2) (fid_vals_ne P hfl m hm hnum)]
      exact hf.ctype i hi
  | creator hn => exact ⟨hf.fid, fun x hx => by cases hx; exact ⟨hm, hn⟩, hf.tscorr, hf.slots, hf.ctype, hf.hdr⟩
  | tscorr hn => exact ⟨hf.fid, hf.creator, fun x hx => by cases hx; exact ⟨hm, hn⟩, hf.slots, hf.ctype, hf.hdr⟩
  | fieldDesc _ => exact ⟨hf.fid, hf.creator, hf.tscorr, hf.slots, hf.ctype, hf.hdr⟩
  | devId _ => exact ⟨hf.fid, hf.creator, hf.tscorr, hf.slots, hf.ctype, hf.hdr⟩
  | slot ci _ hc =>
    refine ⟨hf.fid, hf.creator, hf.tscorr, fun i hi => ?_, fun i hi => ?_, hf.hdr⟩
    · cases hc.symm.trans hi
      show SlotsOK P _ (containerAdd P (P.containers.getD ci default) f.slots m g).1
      cases hs : slotFor (P.containers.getD ci default) m.num with
      | none => rw [containerAdd_none _ g hs]; exact hf.slots ci hc
      | some si =>
        rw [containerAdd_some _ g hs]
        have hmsg := (slotFor_spec hs).2
        obtain ⟨hok, hnum⟩ := expandMsg_typed P hx m g hm
        exact (hf.slots ci hc).add P _ _ si _ hok (hnum.trans hmsg.symm) _
    · cases hc.symm.trans hi
      exact hf.ctype ci hc

end Fit
