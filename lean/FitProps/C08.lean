import FitModel.Encode
import FitModel.Items
import FitModel.Gen.Profile
import FitProofs.ExpandRecord
import FitProofs.Routing
/-!
  C08 — decoding and encoding are pure: results do not depend on call history.

  Partial, with a recorded finding (D12).  In the model every entry point is a function of its
  input, the options and `Globals` — the three package-level component accumulators, which are the
  only package-level variables the static analysis finds written on the decode/encode paths
  (`gen_written_globals`, regenerated from the source on every run).  Theorems, step by step (not
  composed over `expandRecord`): no message but a record touches or reads `Globals`, and each of its
  three accumulating steps does not on an invalid source (csd: the nil array only); `Encode` does not take `Globals` at all.  `decode_history_counterexample` exhibits the dependence (D12).
  Process freshness and map-iteration randomness are runtime behaviour, exercised by the
  correspondence run.
-/
namespace Fit.Props.C08
open Fit

/-- the static half of the tie: exactly the three accumulators are written -/
theorem gen_written_globals :
    Gen.writtenGlobals = ["accumuAccumulatedPower", "accumuDistance", "accumuTotalCycles"] := by decide

/-- only record messages can touch the accumulators … -/
theorem expand_other_pure (P : Profile) (m : Msg) (g g2 : Globals) (h : m.num ≠ mnRecord) :
    (expand P m g).2 = g ∧ (expand P m g).1 = (expand P m g2).1 := by
  unfold expand
  split
  · exact ⟨rfl, rfl⟩
  · simp only [h, ↓reduceIte]
    split
    · exact ⟨rfl, rfl⟩
    · split
      · exact ⟨rfl, rfl⟩
      · split <;> exact ⟨rfl, rfl⟩

/-- … and a record message does so only through the three accumulated sources
    (compressed_speed_distance, cycles, compressed_accumulated_power).  For the first: with the
    nil array in the field (the all-0xFF triple, invalid too, is not covered) the expansion
    neither reads nor writes the accumulators. -/
theorem csd_invalid_pure (pm : PMsg) (m : Msg) (g g2 : Globals)
    (h : ∀ ci, pm.idx "CompressedSpeedDistance" = some ci → m.vals[ci]? = some (.us none)) :
    (expandCsd pm m g).2 = g ∧ (expandCsd pm m g).1 = (expandCsd pm m g2).1 := by
  unfold expandCsd
  split
  · rename_i ci si di hci _ _
    rw [h ci hci]
    exact ⟨rfl, rfl⟩
  · exact ⟨rfl, rfl⟩

theorem cycles_invalid_pure (pm : PMsg) (m : Msg) (g g2 : Globals)
    (h : ∀ ci, pm.idx "Cycles" = some ci → m.getU ci = some 0xFF) :
    (expandCycles pm m g).2 = g ∧ (expandCycles pm m g).1 = (expandCycles pm m g2).1 := by
  simp only [expandCycles_eq, onValid_of_invalid h, and_self]

theorem power_invalid_pure (pm : PMsg) (m : Msg) (g g2 : Globals)
    (h : ∀ ci, pm.idx "CompressedAccumulatedPower" = some ci → m.getU ci = some 0xFFFF) :
    (expandPower pm m g).2 = g ∧ (expandPower pm m g).1 = (expandPower pm m g2).1 := by
  simp only [expandPower_eq, onValid_of_invalid h, and_self]

/-- routing a message that is not a record leaves the accumulators alone, whatever the container -/
theorem containerAdd_other_pure (P : Profile) (c : Container) (sl : List (List Msg)) (m : Msg) (g : Globals)
    (h : m.num ≠ mnRecord) : (containerAdd P c sl m g).2 = g := by
  cases hs : slotFor c m.num with
  | none => rw [containerAdd_none sl g hs]
  | some i =>
    rw [containerAdd_some sl g hs, expandMsg_eq_expand]
    exact (expand_other_pure P m g g h).1

/-- D12 (known finding): the same record gives different distances depending on what was decoded
    before in the same process. -/
theorem decode_history_counterexample :
    let rec20 : Msg := ⟨20, (Gen.m20.invalid.set 9 (.us (some [0x34, 0x12, 0x0B])))⟩
    (Gen.m20.idx "CompressedSpeedDistance" = some 9) ∧
    (expand Gen.profile rec20 {}).1 ≠ (expand Gen.profile rec20 { dist := ⟨true, 500, 7, 4095⟩ }).1 := by
  decide +kernel

end Fit.Props.C08
