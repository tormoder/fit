import FitModel.Items
import FitProofs.DProg
import FitProofs.ItemSteps
import FitProofs.Consume
import FitProofs.Crc
import FitProofs.Codec
import FitProofs.ListLemmas
/-
  Framing: the byte-level record parser of `Decode.lean`, run on the serialisation of a list of
  items, performs `stepItem` on each item.

  `X_runs` and `run_parseData`: what a parser does on its bytes, as a `Goes` statement; `run_item`, `run_items`
  are unfolded to `runSpecD` because the loop's guard reads byte counter and data size, which `Goes` quantifies away.
-/
namespace Fit
open Fit.Crc

/-- the early exit for a stop of the item machine (a panic has no error class); only its `.err` is ever compared -/
def exitOf (o : Outcome) : ErrExit := ⟨if o.panic then none else o.err, o.st⟩

theorem Goes.rd {st : DecSt} {k : Nat} {cont : Bytes → DecSt → DP} (bs : Bytes) {b : Bytes}
    {r : (ErrExit → Prop) ⊕ DP} (hk : bs.length = k) (h : Goes (cont bs (st.eat bs)) b r) :
    Goes (rd st k cont) (bs ++ b) r := by
  rw [← DecSt.eat_rd st k bs hk] at h
  exact (Runs.readBuf _ (fun bs => cont bs { st with n := st.n + k, crc := update st.crc bs }) bs hk).andThen h

theorem parseFields_runs (P : Profile) (dm : DefMsg) (known : Bool) (cont : Option Msg → DecSt → DP)
    (fds : List FieldDef) (raws : List Bytes) (hfit : FieldsFit fds raws) (m : Option Msg) (st : DecSt) :
    Goes (parseFields P dm known fds m st cont) raws.flatten
      (match stepFields P dm known fds raws m st with
        | .ok m' st' => .inr (cont m' st')
        | .fail o => .inl (·.err = (exitOf o).err)) := by
  induction fds generalizing raws m st with
  | nil =>
    cases raws with
    | nil => exact Runs.refl _
    | cons _ _ => cases hfit
  | cons fd fds ih =>
    cases raws with
    | nil => cases hfit
    | cons raw raws =>
      obtain ⟨hlen, hfit'⟩ := hfit
      rw [parseFields_cons, stepFields_cons, List.flatten_cons,
        show fieldSt P dm known fd raw st = (fieldBump P dm known fd st).eat raw from DecSt.eat_rd _ _ _ hlen]
      generalize fieldBump P dm known fd st = st1
      refine Goes.rd raw hlen ?_
      cases applyField P dm known fd raw m (st1.eat raw).ts with
      | err => exact Fails.exit (by rfl) _
      | panic => exact Fails.exit (by rfl) _
      | ok m' ts' => exact ih raws hfit' m' ((st1.eat raw).setTs ts')

theorem skipDev_runs (cont : DecSt → DP) (ds : List DevDesc) (raws : List Bytes) (hfit : DevFit ds raws) (st : DecSt) :
    Runs (skipDev ds st cont) raws.flatten (cont (stepDev ds raws st)) := by
  induction ds generalizing raws st with
  | nil =>
    cases raws with
    | nil => exact Runs.refl _
    | cons _ _ => cases hfit
  | cons d ds ih =>
    cases raws with
    | nil => cases hfit
    | cons raw raws =>
      unfold stepDev skipDev
      rw [List.flatten_cons, DecSt.eat_rd st d.size raw hfit.1]
      exact Goes.rd raw hfit.1 (ih raws hfit.2 _)

theorem parseData_pre (P : Profile) (hb : Nat) (compressed : Bool) (st : DecSt) (cont : Option Msg → DecSt → DP) :
    parseData P hb compressed st cont =
      match dataPre P hb compressed st with
      | .stop false st' => dfail st' .other
      | .stop true st' => dpanic st'
      | .go dm m st' => parseFields P dm (P.known dm.global) dm.fields m st' fun m st =>
          skipDev dm.dev st fun st => cont m st := by
  have : parseData P hb compressed st cont = dataHead P hb compressed st
      (fun p st' => bif p then dpanic st' else dfail st' .other)
      (fun dm m st' => parseFields P dm (P.known dm.global) dm.fields m st' fun m st =>
          skipDev dm.dev st fun st => cont m st) := rfl
  rw [this, dataHead_eq]
  cases dataPre P hb compressed st with
  | stop p st' => cases p <;> rfl
  | go dm m st' => rfl

theorem parseData_runs (P : Profile) (hb : Nat) (compressed : Bool) (cont : Option Msg → DecSt → DP)
    (st : DecSt) (fields dev : List Bytes) (hfit : DataFit st hb compressed fields dev) :
    Goes (parseData P hb compressed st cont) (fields.flatten ++ dev.flatten)
      (match dataPre P hb compressed st with
        | .stop p _ => .inl (·.err = if p then none else some .other)
        | .go dm m st1 =>
          match stepFields P dm (P.known dm.global) dm.fields fields m st1 with
          | .fail o => .inl (·.err = (exitOf o).err)
          | .ok m2 st2 => .inr (cont m2 (stepDev dm.dev dev st2))) := by
  rw [parseData_pre]
  cases hp : dataPre P hb compressed st with
  | stop p st' => cases p <;> exact Fails.exit (by rfl) _
  | go dm m st1 =>
    obtain ⟨hf, hd⟩ := hfit dm (dataPre_go hp).look
    have h1 := parseFields_runs P dm (P.known dm.global) (fun m st => skipDev dm.dev st fun st => cont m st)
      dm.fields fields hf m st1
    dsimp only
    cases hsf : stepFields P dm (P.known dm.global) dm.fields fields m st1 with
    | fail o => rw [hsf] at h1; exact Fails.append h1 _
    | ok m2 st2 => rw [hsf] at h1; exact Runs.andThen h1 (skipDev_runs _ dm.dev dev hd _)

theorem parseData_runs_ok {P : Profile} {hb : Nat} {compressed : Bool} {cont : Option Msg → DecSt → DP}
    {st : DecSt} {fields dev : List Bytes} {dm : DefMsg} {m m2 : Option Msg} {st1 st2 : DecSt}
    (hp : dataPre P hb compressed st = .go dm m st1)
    (hsf : stepFields P dm (P.known dm.global) dm.fields fields m st1 = .ok m2 st2)
    (hfit : DataFit st hb compressed fields dev) :
    Runs (parseData P hb compressed st cont) (fields.flatten ++ dev.flatten) (cont m2 (stepDev dm.dev dev st2)) := by
  have h := parseData_runs P hb compressed cont st fields dev hfit
  rw [hp] at h
  dsimp only at h
  rw [hsf] at h
  exact h

/-- `u8_toNat` in the spelling of the serialiser, for `simp only` -/
theorem u8_toNat_lt (n : Nat) (h : n < 256) : (u8 n).toNat = n := u8_toNat n h

theorem parse_serializeFieldDefs (fds : List FieldDef) (h : ∀ f ∈ fds, f.small) :
    parseFieldDefs (serializeFieldDefs fds) fds.length = fds := by
  induction fds with
  | nil => rfl
  | cons f fs ih =>
    obtain ⟨h1, h2, h3⟩ := h f (List.mem_cons_self ..)
    simp only [serializeFieldDefs, List.length_cons, parseFieldDefs, u8_toNat_lt _ h1, u8_toNat_lt _ h2,
      u8_toNat_lt _ h3]
    rw [ih (fun f hf => h f (List.mem_cons_of_mem _ hf))]

theorem parse_serializeDevDescs (ds : List DevDesc) (h : ∀ f ∈ ds, f.small) :
    parseDevDescs (serializeDevDescs ds) ds.length = ds := by
  induction ds with
  | nil => rfl
  | cons f fs ih =>
    obtain ⟨h1, h2, h3⟩ := h f (List.mem_cons_self ..)
    simp only [serializeDevDescs, List.length_cons, parseDevDescs, u8_toNat_lt _ h1, u8_toNat_lt _ h2,
      u8_toNat_lt _ h3]
    rw [ih (fun f hf => h f (List.mem_cons_of_mem _ hf))]

theorem serializeFieldDefs_length (fds : List FieldDef) : (serializeFieldDefs fds).length = 3 * fds.length := by
  induction fds with
  | nil => rfl
  | cons f fs ih => simp only [serializeFieldDefs, List.length_cons, ih]; omega

theorem serializeDevDescs_length (ds : List DevDesc) : (serializeDevDescs ds).length = 3 * ds.length := by
  induction ds with
  | nil => rfl
  | cons f fs ih => simp only [serializeDevDescs, List.length_cons, ih]; omega

/-- header byte of a definition record: bit 6 says definition, bit 5 developer fields, the low four bits the local type -/
def defHeader (d : DefMsg) (devBit : Bool) : Nat := 0x40 + (if devBit then 0x20 else 0) + d.localT

theorem defHeader_bits (d : DefMsg) (devBit : Bool) (h : d.localT < 16) :
    defHeader d devBit % 16 = d.localT ∧ hasBit (defHeader d devBit) devDataMask = devBit ∧
    hasBit (defHeader d devBit) compressedHeaderMask = false ∧
    hasBit (defHeader d devBit) mesgDefinitionMask = true ∧ defHeader d devBit < 256 := by
  unfold defHeader hasBit devDataMask compressedHeaderMask mesgDefinitionMask
  cases devBit <;> simp <;> omega

def defDev (d : DefMsg) (devBit : Bool) : Bytes :=
  if devBit then [u8 d.dev.length] ++ serializeDevDescs d.dev else []

/-- the bytes of a definition record after its header byte, bracketed as `parseDefinition` reads them: one segment per `rd` -/
def defBody (d : DefMsg) (devBit : Bool) : Bytes :=
  [0] ++ ([archByte d.arch] ++ (d.arch.enc 2 d.global ++ ([u8 d.fields.length] ++
    (serializeFieldDefs d.fields ++ defDev d devBit))))

theorem serializeItem_defn (d : DefMsg) (devBit : Bool) :
    serializeItem (.defn d devBit) = [u8 (defHeader d devBit)] ++ defBody d devBit := by
  simp [serializeItem, defBody, defDev, defHeader]

theorem parseDefinition_runs (P : Profile) (hb : Nat) (cont : DefMsg → DecSt → DP) (d : DefMsg) (devBit : Bool)
    (hwf : DefnWF d devBit) (hl : hb % 16 = d.localT) (hdev : hasBit hb devDataMask = devBit) (st : DecSt) :
    Goes (parseDefinition P hb st cont) (defBody d devBit)
      (if d.global = mesgNumInvalid then .inl (·.err = some .format)
       else if !(d.fields.all (validateFieldDef P d.global)) then .inl (·.err = some .other)
       else .inr (cont (if devBit then d else { d with dev := [] }) (st.eat (defBody d devBit)))) := by
  have harch : ¬ (([archByte d.arch].headD 0).toNat > 1) ∧
      (if ([archByte d.arch].headD 0).toNat = 0 then Endian.le else Endian.be) = d.arch := by
    cases d.arch <;> exact ⟨by decide, rfl⟩
  have hglob : d.arch.dec (d.arch.enc 2 d.global) = d.global := by
    rw [dec_enc]; exact Nat.mod_eq_of_lt hwf.global
  have hnf : ([u8 d.fields.length].headD 0).toNat = d.fields.length := u8_toNat_lt _ hwf.nfields
  have hnd : devBit = true → ([u8 d.dev.length].headD 0).toNat = d.dev.length :=
    fun h => u8_toNat_lt _ (hwf.ndev h)
  unfold parseDefinition defBody
  dsimp only
  -- reserved byte, architecture, global message number
  refine Goes.rd [0] rfl (Goes.rd [archByte d.arch] rfl ?_)
  rw [if_neg harch.1, harch.2]
  refine Goes.rd _ (enc_length ..) ?_
  rw [hglob]
  by_cases hg : d.global = mesgNumInvalid
  · rw [if_pos hg, if_pos hg]
    exact Fails.exit (by rfl) _
  rw [if_neg hg, if_neg hg]
  -- number of fields
  refine Goes.rd [u8 d.fields.length] rfl ?_
  rw [hnf, hdev, hl]
  simp only [DecSt.eat_eat]
  by_cases hz : d.fields.length = 0 ∧ (!devBit) = true
  · -- no fields and no developer fields: nothing more is read
    rw [if_pos hz]
    have hf := List.eq_nil_of_length_eq_zero hz.1
    cases devBit
    · cases d
      subst hf
      exact Runs.refl _
    · cases hz.2
  rw [if_neg hz]
  -- the field definitions
  refine Goes.rd _ (serializeFieldDefs_length _) ?_
  rw [parse_serializeFieldDefs d.fields hwf.fields, DecSt.eat_eat]
  by_cases hall : (!(d.fields.all (validateFieldDef P d.global))) = true
  · rw [if_pos hall, if_pos hall]
    exact Fails.exit (by rfl) _
  rw [if_neg hall, if_neg hall]
  -- the developer field descriptions, if the header announces them
  cases devBit
  · simp only [defDev, Bool.false_eq_true, ↓reduceIte, List.append_nil, List.append_assoc]
    exact Runs.refl _
  · simp only [defDev, ↓reduceIte]
    refine Goes.rd [u8 d.dev.length] rfl ?_
    rw [hnd rfl, DecSt.eat_eat, ← List.append_nil (serializeDevDescs d.dev)]
    refine Goes.rd _ (serializeDevDescs_length _) ?_
    rw [parse_serializeDevDescs d.dev (hwf.dev rfl), DecSt.eat_eat]
    simp only [List.append_assoc, List.append_nil]
    exact Runs.refl _

theorem parseDefinition_runs_ok (P : Profile) (hb : Nat) (cont : DefMsg → DecSt → DP) (d : DefMsg) (devBit : Bool)
    (hwf : DefnWF d devBit) (hl : hb % 16 = d.localT) (hdev : hasBit hb devDataMask = devBit) (st : DecSt)
    (hg : ¬ d.global = mesgNumInvalid) (hall : ¬ (!(d.fields.all (validateFieldDef P d.global))) = true) :
    Runs (parseDefinition P hb st cont) (defBody d devBit)
      (cont (if devBit then d else { d with dev := [] }) (st.eat (defBody d devBit))) := by
  have h := parseDefinition_runs P hb cont d devBit hwf hl hdev st
  rw [if_neg hg, if_neg hall] at h
  exact h

/-- for goals that hold a whole parser, on which `split` is slow -/
theorem ite_rule {α : Sort _} {c : Prop} [Decidable c] {a b : α} {Q : α → Prop} (h1 : c → Q a) (h2 : ¬ c → Q b) :
    Q (if c then a else b) := by
  split
  · exact h1 ‹_›
  · exact h2 ‹_›

/-- `parseDefinition` is a tree of reads, rejections and calls of `cont` on a definition whose fields
    passed `validateFieldDef`.  To show `M` of it, with `I bs st'` standing for what is known of the
    state `st'` after the bytes `bs`: `I` holds at the start, and is enough for `M` of a rejection, of
    `cont`, and of a read whose continuation is shown under `I` of the state that ate the bytes read. -/
theorem parseDefinition_cases (P : Profile) (hb : Nat) (cont : DefMsg → DecSt → DP) (st : DecSt)
    (I : Bytes → DecSt → Prop) (M : Bytes → DP → Prop) (h0 : I [] st)
    (hrd : ∀ bs st' k (c : Bytes → DecSt → DP), I bs st' →
      (∀ raw, I (bs ++ raw) { st' with n := st'.n + k, crc := update st'.crc raw } →
        M (bs ++ raw) (c raw { st' with n := st'.n + k, crc := update st'.crc raw })) → M bs (rd st' k c))
    (hfail : ∀ bs st' c, I bs st' → M bs (dfail st' c))
    (hcont : ∀ bs st' dm, I bs st' → (∀ fd ∈ dm.fields, validateFieldDef P dm.global fd = true) → M bs (cont dm st')) :
    M [] (parseDefinition P hb st cont) := by
  unfold parseDefinition
  dsimp only
  refine hrd _ _ _ _ h0 fun _ h1 => ?_
  refine hrd _ _ _ _ h1 fun a h2 => ?_
  refine ite_rule (Q := M _) (fun _ => hfail _ _ _ h2) fun _ => ?_
  generalize (if (a.headD 0).toNat = 0 then Endian.le else Endian.be) = arch
  refine hrd _ _ _ _ h2 fun g h3 => ?_
  refine ite_rule (Q := M _) (fun _ => hfail _ _ _ h3) fun _ => ?_
  refine hrd _ _ _ _ h3 fun nf h4 => ?_
  refine ite_rule (Q := M _) (fun _ => hcont _ _ _ h4 (fun _ h => nomatch h)) fun _ => ?_
  refine hrd _ _ _ _ h4 fun fb h5 => ?_
  refine ite_rule (Q := M _) (fun _ => hfail _ _ _ h5) fun hval => ?_
  refine ite_rule (Q := M _) (fun _ => ?_) fun _ => hcont _ _ _ h5 (forall_of_not_bnot_all hval)
  refine hrd _ _ _ _ h5 fun nd h6 => ?_
  exact hrd _ _ _ _ h6 fun db h7 => hcont _ _ _ h7 (forall_of_not_bnot_all hval)

theorem data_header_bits (l : Nat) (h : l < 16) :
    hasBit l compressedHeaderMask = false ∧ hasBit l mesgDefinitionMask = false ∧ l % 16 = l ∧ (u8 l).toNat = l := by
  refine ⟨?_, ?_, Nat.mod_eq_of_lt h, u8_toNat_lt _ (by omega)⟩ <;>
    (simp only [hasBit, compressedHeaderMask, mesgDefinitionMask]; simp; omega)

theorem cdata_header_bits (l off : Nat) (hl : l < 4) (ho : off < 32) :
    hasBit (0x80 + l * 32 + off) compressedHeaderMask = true ∧ (0x80 + l * 32 + off) / 32 % 4 = l ∧
    (u8 (0x80 + l * 32 + off)).toNat = 0x80 + l * 32 + off ∧ (0x80 + l * 32 + off) % 32 = off := by
  refine ⟨?_, by omega, u8_toNat_lt _ (by omega), by omega⟩
  simp only [hasBit, compressedHeaderMask]; simp; omega

theorem dataHead_compressed {α : Type} (P : Profile) {l off : Nat} (hl : l < 4) (hoff : off < 32) (st : DecSt)
    (href : st.timestamp ≠ 0) (stop : Bool → DecSt → α) (go : DefMsg → Option Msg → DecSt → α) :
    dataHead P (0x80 + l * 32 + off) true st stop go =
      dataHead P l false st stop fun dm m st' =>
        stampHead P dm m { st' with timestamp := tsAdvance st'.timestamp st'.lastOff off, lastOff := off }
          (tsAdvance st'.timestamp st'.lastOff off) stop go := by
  unfold dataHead
  obtain ⟨-, hlocal, -, hoffset⟩ := cdata_header_bits l off hl hoff
  simp only [hlocal, hoffset, Nat.mod_eq_of_lt (Nat.lt_trans hl (by decide : 4 < 16)), ↓reduceIte, Bool.true_and,
    Bool.false_and, href, ne_eq, not_false_eq_true, decide_true, Bool.not_true, Bool.not_false, Bool.false_eq_true]

/-! One turn of `decodeFileData`'s loop in named pieces, so that a lemma can speak of one record; `K` is the rest
    of the loop. -/

def addThen (P : Profile) (K : DecSt → DP) : Option Msg → DecSt → DP :=
  fun m st => match addMsg P m st with
    | none => dpanic st
    | some st => K st

def recordAfter (P : Profile) (hb : Nat) (st : DecSt) (K : DecSt → DP) : DP :=
  if hasBit hb compressedHeaderMask then parseData P hb true st (addThen P K)
  else if hasBit hb mesgDefinitionMask then
    parseDefinition P hb st fun dm st => K { st with defs := setAt st.defs dm.localT (some dm) }
  else parseData P hb false st (addThen P K)

def recordBody (P : Profile) (st : DecSt) (K : DecSt → DP) : DP :=
  rd st 1 fun hbs st => recordAfter P (hbs.headD 0).toNat st K

theorem decodeFileData_succ (P : Profile) (limit fuel : Nat) (st : DecSt) (cont : DecSt → DP) (h : st.n < limit) :
    decodeFileData P limit (fuel + 1) st cont = recordBody P st fun st => decodeFileData P limit fuel st cont := by
  rw [decodeFileData, if_pos h]
  rfl

theorem decodeFileData_done (P : Profile) (limit fuel : Nat) (st : DecSt) (cont : DecSt → DP) (h : ¬ st.n < limit) :
    decodeFileData P limit fuel st cont = cont st := by
  cases fuel with
  | zero => rfl
  | succ f => simp only [decodeFileData, h, ↓reduceIte]

theorem Goes.record {P : Profile} {K : DecSt → DP} {st : DecSt} {hb : Nat} {b : Bytes} {r : (ErrExit → Prop) ⊕ DP}
    (hlt : hb < 256) (h : Goes (recordAfter P hb (st.eat [u8 hb]) K) b r) : Goes (recordBody P st K) ([u8 hb] ++ b) r := by
  refine Goes.rd [u8 hb] rfl ?_
  rw [show ([u8 hb].headD 0).toNat = hb from u8_toNat_lt _ hlt]
  exact h

theorem run_parseData (P : Profile) (hb : Nat) (compressed : Bool) (K : DecSt → DP)
    (st : DecSt) (fields dev : List Bytes) (hfit : DataFit st hb compressed fields dev) :
    Goes (parseData P hb compressed st (addThen P K)) (fields.flatten ++ dev.flatten)
      (match stepData P hb compressed fields dev st with
        | .ok st' => .inr (K st')
        | .stop o => .inl (·.err = (exitOf o).err)) := by
  have h := parseData_runs P hb compressed (addThen P K) st fields dev hfit
  rw [stepData_pre]
  cases hp : dataPre P hb compressed st with
  | stop p st' => rw [hp] at h; cases p <;> exact h
  | go dm m st1 =>
    rw [hp] at h
    dsimp only [afterHead] at h ⊢
    cases hsf : stepFields P dm (P.known dm.global) dm.fields fields m st1 with
    | fail o => rw [hsf] at h; exact h
    | ok m2 st2 =>
      rw [hsf] at h
      dsimp only at h ⊢
      have hK : addThen P K m2 (stepDev dm.dev dev st2) = match addMsg P m2 (stepDev dm.dev dev st2) with
        | none => dpanic (stepDev dm.dev dev st2)
        | some st => K st := rfl
      rw [hK] at h
      cases ha : addMsg P m2 (stepDev dm.dev dev st2) with
      | none =>
        rw [ha] at h
        rw [← List.append_nil (fields.flatten ++ dev.flatten)]
        exact Runs.andThen h (Fails.exit (by rfl) [])
      | some st3 => rw [ha] at h; exact h

theorem dataRecord_runs (P : Profile) (K : DecSt → DP) (st : DecSt) (hb : Nat) (c : Bool) (fs dev : List Bytes)
    (hlt : hb < 256) (hc : hasBit hb compressedHeaderMask = c) (hd : c = false → hasBit hb mesgDefinitionMask = false)
    (hfit : DataFit st hb c fs dev) :
    Goes (recordBody P st K) ([u8 hb] ++ (fs.flatten ++ dev.flatten))
      (match stepData P hb c fs dev (st.eat [u8 hb]) with
        | .ok st' => .inr (K st')
        | .stop o => .inl (·.err = (exitOf o).err)) := by
  refine Goes.record hlt ?_
  have hgo : recordAfter P hb (st.eat [u8 hb]) K = parseData P hb c (st.eat [u8 hb]) (addThen P K) := by
    unfold recordAfter
    cases c
    · rw [hc, hd rfl]; rfl
    · rw [hc]; rfl
  rw [hgo]
  exact run_parseData P hb c K (st.eat [u8 hb]) fs dev hfit

theorem record_runs (P : Profile) (K : DecSt → DP) (st : DecSt) (it : Item) (hok : ItemOK st it) :
    Goes (recordBody P st K) (serializeItem it)
      (match stepItem P st it with
        | .ok st' => .inr (K st')
        | .stop o => .inl (·.err = (exitOf o).err)) := by
  cases it with
  | data l fs dev =>
    obtain ⟨hc, hd, _, _⟩ := data_header_bits l hok.1
    exact dataRecord_runs P K st l false fs dev (by have := hok.1; omega) hc (fun _ => hd) hok.data_fit
  | cdata l off fs dev =>
    obtain ⟨hc, _, _⟩ := cdata_header_bits l off hok.1 hok.2.1
    exact dataRecord_runs P K st (0x80 + l * 32 + off) true fs dev
      (by have := hok.1; have := hok.2.1; omega) hc (fun h => by cases h) hok.cdata_fit
  | defn d devBit =>
    have hwf : DefnWF d devBit := hok
    obtain ⟨hb16, hdevb, hcb, hdb, hlt⟩ := defHeader_bits d devBit hwf.localT
    have key := parseDefinition_runs P (defHeader d devBit)
      (fun dm st => K { st with defs := setAt st.defs dm.localT (some dm) }) d devBit hwf hb16 hdevb
      (st.eat [u8 (defHeader d devBit)])
    have hgo : recordAfter P (defHeader d devBit) (st.eat [u8 (defHeader d devBit)]) K =
        parseDefinition P (defHeader d devBit) (st.eat [u8 (defHeader d devBit)])
          fun dm st => K { st with defs := setAt st.defs dm.localT (some dm) } := by
      unfold recordAfter
      rw [hcb, hdb]
      rfl
    rw [← hgo] at key
    simp only [stepItem]
    rw [serializeItem_defn]
    refine Goes.record hlt ?_
    by_cases hg : d.global = mesgNumInvalid
    · rw [if_pos hg] at key ⊢
      exact key
    · rw [if_neg hg] at key ⊢
      by_cases hall : (!(d.fields.all (validateFieldDef P d.global))) = true
      · rw [if_pos hall] at key ⊢
        exact key
      · rw [if_neg hall] at key ⊢
        rw [DecSt.eat_eat, DefMsg.stored_localT] at key
        exact key

theorem run_item (P : Profile) (limit fuel : Nat) (cont : DecSt → DP) (st : DecSt) (n : Nat) (s : SpecSt)
    (tail : Bytes) (it : Item) (hok : ItemOK st it)
    (hs : s.rest = serializeItem it ++ tail) (hl : n + (serializeItem it).length ≤ limit) (hn : st.n = n) :
    match stepItem P st it with
    | .ok st' =>
      runSpecD limit (decodeFileData P limit (fuel + 1) st cont) n s =
        runSpecD limit (decodeFileData P limit fuel st' cont) (n + (serializeItem it).length)
          { s with rest := tail, taken := s.taken + (serializeItem it).length }
    | .stop o =>
      ∃ e, (runSpecD limit (decodeFileData P limit (fuel + 1) st cont) n s).1 = .inl e ∧ e.err = (exitOf o).err := by
  have hpos := serializeItem_pos it
  rw [decodeFileData_succ P limit fuel st cont (by omega)]
  have key := record_runs P (fun st => decodeFileData P limit fuel st cont) st it hok
  generalize stepItem P st it = r at key ⊢
  cases r <;> exact key limit n s tail hs hl

/-- **Framing.** Running the byte-level record loop on the serialisation of a list of items (each
    fitting the definitions live when it is reached) does exactly what the item machine does: it
    arrives, with the same decoder state, at the loop over whatever follows — or stops with the
    same error class. -/
theorem run_items (P : Profile) (limit : Nat) (cont : DecSt → DP) (its : List Item) (fuel : Nat)
    (st : DecSt) (n : Nat) (s : SpecSt) (tail : Bytes) (hfit : ItemsFit P st its)
    (hs : s.rest = serialize its ++ tail) (hl : n + (serialize its).length ≤ limit) (hn : st.n = n) :
    match stepItems P st its with
    | .ok st' =>
      runSpecD limit (decodeFileData P limit (fuel + its.length) st cont) n s =
        runSpecD limit (decodeFileData P limit fuel st' cont) (n + (serialize its).length)
          { s with rest := tail, taken := s.taken + (serialize its).length } ∧ st'.n = n + (serialize its).length
    | .stop o =>
      ∃ e, (runSpecD limit (decodeFileData P limit (fuel + its.length) st cont) n s).1 = .inl e ∧
        e.err = (exitOf o).err := by
  induction its generalizing st n s with
  | nil => exact ⟨Runs.refl _ limit n s tail hs hl, hn⟩
  | cons it its ih =>
    obtain ⟨hok, hrest⟩ := hfit
    rw [serialize_cons] at hs hl ⊢
    simp only [List.append_assoc, List.length_append] at hs hl ⊢
    rw [show fuel + (it :: its).length = (fuel + its.length) + 1 from by simp only [List.length_cons]; omega]
    have key := run_item P limit (fuel + its.length) cont st n s (serialize its ++ tail) it hok hs (by omega) hn
    unfold stepItems
    cases hstep : stepItem P st it with
    | stop o => rw [hstep] at key; exact key
    | ok st1 =>
      rw [hstep] at key
      dsimp only at key ⊢
      have hn1 := ((stepItem_spec hstep).ate hok).n
      have := ih st1 (n + (serializeItem it).length)
        { s with rest := serialize its ++ tail, taken := s.taken + (serializeItem it).length }
        (hrest st1 hstep) rfl (by omega) (by omega)
      rw [key]
      split at this
      · exact ⟨by rw [this.1]; simp only [Nat.add_assoc], by rw [this.2]; omega⟩
      · exact this

end Fit
