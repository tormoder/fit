import FitProofs.Typed
import FitProofs.NoPanicField
import FitProofs.CrcTrack
import FitProofs.Framing
import FitProofs.ListLemmas
import FitProofs.Routing
/-
  C01 and the typing half of C07: on a well-formed profile no path of the record phase ends in a
  panic, and what it builds is well typed (`Build` carries that half through the same walk).
  A small Hoare logic over the record-phase programs (`wp`), an invariant with a property `F` of the
  attached File which `File.add` and `File.init` keep, one lemma per decoder function.  `F := True`:
  C01; `F := FileTyped P`: typed Files.  The pre-CRC panic is excluded by `Tracks.run_end` (CrcTrack).
-/
namespace Fit

/-- an early exit that is an error, not a panic -/
def NP (e : ErrExit) : Prop := e.err.isSome = true

/-- `Q` holds at every normal end, every early exit is an error (never a panic); reads deliver
    exactly the number of bytes asked for -/
def wp (Q : DecSt → Prop) : DP → Prop
  | .done st => Q st
  | .exit e => NP e
  | .readBuf k onErr cont => (∀ r, NP (onErr r)) ∧ ∀ bs, bs.length = k → wp Q (cont bs)

theorem wp.run {Q : DecSt → Prop} (p : DP) (h : wp Q p) {limit n : Nat} {s : SpecSt} {o : ErrExit ⊕ DecSt} {n' : Nat}
    {s' : SpecSt} (hr : runSpecD limit p n s = (o, n', s')) : Sum.elim NP Q o := by
  induction p generalizing n s with
  | done x => cases hr; exact h
  | exit e => cases hr; exact h
  | readBuf k onErr cont ih =>
    rw [runSpecD_readBuf] at hr
    split at hr
    · exact ih _ (h.2 _ (by rw [List.length_take]; omega)) hr
    · cases hr; exact h.1 _

theorem wp_dfail (Q : DecSt → Prop) (st : DecSt) (c : ErrClass) : wp Q (dfail st c) := rfl

theorem wp_rd (Q : DecSt → Prop) (st : DecSt) (k : Nat) (cont : Bytes → DecSt → DP)
    (h : ∀ bs, bs.length = k → wp Q (cont bs { st with n := st.n + k, crc := Crc.update st.crc bs })) :
    wp Q (rd st k cont) := by
  unfold rd
  exact ⟨fun r => rfl, h⟩

def DefsOK (P : Profile) (defs : List (Option DefMsg)) : Prop :=
  ∀ i dm, defs.getD i none = some dm → ∀ fd ∈ dm.fields, validateFieldDef P dm.global fd = true

def FileOK (c : Bool) (file : Option FileSt) : Prop :=
  ∃ f, file = some f ∧ (c = true → f.cidx.isSome = true)

/-- a File is attached (with its container once `c`), every stored definition is validated, at
    least `n0` bytes of the data area have been consumed, the header is still `h0` -/
def Inv (P : Profile) (h0 : Header) (c : Bool) (n0 : Nat) (st : DecSt) : Prop :=
  FileOK c st.file ∧ DefsOK P st.defs ∧ n0 ≤ st.n ∧ st.hdr = h0

section
variable {P : Profile} {h0 : Header} {c : Bool} {n0 : Nat} {st : DecSt} (h : Inv P h0 c n0 st)
include h
theorem Inv.file : FileOK c st.file := h.1
theorem Inv.defs : DefsOK P st.defs := h.2.1
theorem Inv.n : n0 ≤ st.n := h.2.2.1
theorem Inv.hdr : st.hdr = h0 := h.2.2.2
end

theorem Inv.mono {P : Profile} {h0 : Header} {c : Bool} {n0 n1 : Nat} {st : DecSt} (h : Inv P h0 c n0 st) (hn : n1 ≤ n0) :
    Inv P h0 c n1 st := ⟨h.1, h.2.1, by have := h.2.2.1; omega, h.2.2.2⟩

theorem DefsOK.setAt {P : Profile} {defs : List (Option DefMsg)} (h : DefsOK P defs) (i : Nat) (dm : DefMsg)
    (hdm : ∀ fd ∈ dm.fields, validateFieldDef P dm.global fd = true) : DefsOK P (setAt defs i (some dm)) := by
  intro j dm' hj
  rw [getD_setAt] at hj
  split at hj
  · cases hj; exact hdm
  · exact h j dm' hj

structure InvF (P : Profile) (F : FileSt → Prop) (h0 : Header) (c : Bool) (n0 : Nat) (st : DecSt) : Prop where
  inv : Inv P h0 c n0 st
  sat : ∀ f, st.file = some f → F f

theorem InvF.of_eq {P : Profile} {F : FileSt → Prop} {h0 : Header} {c : Bool} {n0 : Nat} {st st' : DecSt}
    (h : InvF P F h0 c n0 st) (h1 : st'.file = st.file) (h2 : st'.defs = st.defs) (h3 : st.n ≤ st'.n)
    (h4 : st'.hdr = st.hdr) : InvF P F h0 c n0 st' :=
  ⟨⟨h1 ▸ h.inv.file, h2 ▸ h.inv.defs, Nat.le_trans h.inv.n h3, h4.trans h.inv.hdr⟩, fun f hf => h.sat f (h1 ▸ hf)⟩

theorem InvF.mono {P : Profile} {F : FileSt → Prop} {h0 : Header} {c : Bool} {n0 n1 : Nat} {st : DecSt}
    (h : InvF P F h0 c n0 st) (hn : n1 ≤ n0) : InvF P F h0 c n1 st := ⟨h.inv.mono hn, h.sat⟩

theorem InvF.setDef {P : Profile} {F : FileSt → Prop} {h0 : Header} {c : Bool} {n0 : Nat} {st : DecSt}
    (h : InvF P F h0 c n0 st) (dm : DefMsg) (hdm : ∀ fd ∈ dm.fields, validateFieldDef P dm.global fd = true) :
    InvF P F h0 c n0 { st with defs := setAt st.defs dm.localT (some dm) } :=
  ⟨⟨h.inv.file, h.inv.defs.setAt _ _ hdm, h.inv.n, h.inv.hdr⟩, h.sat⟩

/-- what a property of Files must survive for the record loop to keep it -/
structure FileInv (P : Profile) (F : FileSt → Prop) : Prop where
  add : ∀ f m g f' g', F f → MsgOK P m → f.add P m g = some (f', g') → F f'
  init : ∀ f f', F f → f.init P = .ok f' → F f'

theorem FileInv.trivial (P : Profile) : FileInv P fun _ => True := ⟨fun _ _ _ _ _ _ _ _ => True.intro, fun _ _ _ _ => True.intro⟩

/-- `m` is the message under construction for definition `dm` -/
def Build (P : Profile) (dm : DefMsg) (m : Option Msg) : Prop :=
  (P.known dm.global = true → m.isSome = true) ∧
  ∀ msg, m = some msg → ∃ pm, P.msg? dm.global = some pm ∧ pm.known = true ∧ ValsOK pm.layout msg.vals ∧
    msg.num = dm.global

theorem Build.msgOK {P : Profile} {dm : DefMsg} {m : Option Msg} (h : Build P dm m) (msg : Msg) (hm : m = some msg) :
    MsgOK P msg := by
  obtain ⟨pm, hpm, hk, hv, hn⟩ := h.2 msg hm
  exact ⟨pm, by rw [hn]; exact hpm, hk, hv⟩

theorem applyField_build (P : Profile) (hwf : ProfileWF P = true) (dm : DefMsg) (fd : FieldDef) (raw : Bytes)
    (m : Option Msg) (ts : TsRef) (hv : validateFieldDef P dm.global fd = true) (hraw : raw.length = fd.size)
    (hm : Build P dm m) :
    match applyField P dm (P.known dm.global) fd raw m ts with
    | .panic => False
    | .err => True
    | .ok m' _ => Build P dm m' := by
  have hg := applyField_good P hwf dm _ fd raw m ts rfl hv hraw hm.1
  cases hr : applyField P dm (P.known dm.global) fd raw m ts with
  | panic => rw [hr] at hg; exact hg
  | err => trivial
  | ok m' ts' =>
    rw [hr] at hg
    refine ⟨hg, ?_⟩
    cases m with
    | none =>
      cases applyField_none hr
      intro msg hx; cases hx
    | some msg =>
      obtain ⟨pm, hpm, hk, hv', hn⟩ := hm.2 msg rfl
      obtain ⟨msg', e, hv'', hn'⟩ := applyField_typed P dm _ fd raw msg ts pm hpm hv' m' ts' hr
      subst e
      intro x hx
      cases hx
      exact ⟨pm, hpm, hk, hv'', by rw [hn', hn]⟩

theorem wp_parseFields {P : Profile} (hwf : ProfileWF P = true) {dm : DefMsg}
    {cont : Option Msg → DecSt → DP} {Q : DecSt → Prop} {F : FileSt → Prop} {h0 : Header} {c : Bool} {n0 : Nat}
    (hc : ∀ m st, Build P dm m → InvF P F h0 c n0 st → wp Q (cont m st))
    {fds : List FieldDef} (hfds : ∀ fd ∈ fds, validateFieldDef P dm.global fd = true)
    {m : Option Msg} (hm : Build P dm m) {st : DecSt} (hI : InvF P F h0 c n0 st) :
    wp Q (parseFields P dm (P.known dm.global) fds m st cont) := by
  induction fds generalizing m st with
  | nil => exact hc m st hm hI
  | cons fd fds ih =>
    rw [parseFields_cons]
    have hI1 : InvF P F h0 c n0 (fieldBump P dm (P.known dm.global) fd st) := by
      obtain ⟨uf, e⟩ := fieldBump_keeps P dm (P.known dm.global) fd st
      exact e ▸ hI.of_eq rfl rfl (Nat.le_refl _) rfl
    generalize fieldBump P dm (P.known dm.global) fd st = st1 at hI1 ⊢
    apply wp_rd
    intro raw hraw
    have hb := applyField_build P hwf dm fd raw m (DecSt.ts { st1 with n := st1.n + fd.size, crc := Crc.update st1.crc raw })
      (hfds fd (List.mem_cons_self ..)) hraw hm
    generalize applyField P dm (P.known dm.global) fd raw m (DecSt.ts { st1 with n := st1.n + fd.size, crc := Crc.update st1.crc raw }) = r at hb ⊢
    cases r with
    | err => rfl
    | panic => exact hb.elim
    | ok m' ts' =>
      dsimp only
      apply ih (fun fd h => hfds fd (List.mem_cons_of_mem _ h)) hb
      exact hI1.of_eq rfl rfl (by simp only [DecSt.setTs]; omega) rfl

theorem wp_skipDev {P : Profile} {cont : DecSt → DP} {Q : DecSt → Prop} {F : FileSt → Prop} {h0 : Header} {c : Bool}
    {n0 : Nat} (hc : ∀ st, InvF P F h0 c n0 st → wp Q (cont st)) (ds : List DevDesc) {st : DecSt}
    (hI : InvF P F h0 c n0 st) :
    wp Q (skipDev ds st cont) := by
  induction ds generalizing st with
  | nil => exact hc st hI
  | cons d ds ih =>
    unfold skipDev
    apply wp_rd
    intro _ _
    exact ih (hI.of_eq rfl rfl (by simp only; omega) rfl)

theorem dataPre_build (P : Profile) (hwf : ProfileWF P = true) (hb : Nat) (compressed : Bool) (st : DecSt) :
    match dataPre P hb compressed st with
    | .stop p _ => p = false
    | .go dm m _ => Build P dm m := by
  cases hd : dataPre P hb compressed st with
  | stop p st' =>
    cases p with
    | false => rfl
    | true =>
      exfalso
      obtain ⟨dm, _, ⟨hk, hno⟩ | ⟨pf, hg, hno⟩⟩ := dataPre_panic hd
      · obtain ⟨pm, hpm, hctor⟩ := known_hasCtor hwf hk
        rw [hno pm hpm] at hctor
        cases hctor
      · -- field 253 is a date_time, so its struct field is a time.Time
        obtain ⟨pm, hpm, _, facts⟩ := getField_facts hwf hg
        have hk := getField_known hwf hg
        obtain ⟨k, hl, hslot⟩ := facts.slot
        have hkind := facts.ts (Profile.getField_num hg)
        have hkk := facts.kind
        rw [hkind] at hkk
        cases Option.some.inj ((slotOfType_time (.inl hkind) hkk.2).symm.trans hslot)
        exact hno ⟨pm, hk, hpm, ((msg?_facts hwf hpm).known (Profile.known_eq hpm ▸ hk)).2.2, hl⟩
  | go dm m st' =>
    have hs := dataPre_go hd
    refine ⟨fun hk => by obtain ⟨msg, e, _⟩ := hs.msg hk; rw [e]; rfl, fun msg hm => ?_⟩
    obtain ⟨pm, hpm, hn, hv⟩ := hs.vals msg hm
    have hk : P.known dm.global = true := by
      cases h : P.known dm.global
      · rw [hs.none_of_unknown h] at hm; cases hm
      · rfl
    have hkn : pm.known = true := Profile.known_eq hpm ▸ hk
    have hinv := (msg?_facts hwf hpm).invalid_typed hkn
    refine ⟨pm, hpm, hkn, ?_, hn⟩
    rcases hv with e | ⟨pf, ts, _, hsl, e⟩
    · rw [e]; exact hinv
    · rw [e]; exact hinv.set pf.sindex .time _ hsl rfl

theorem wp_parseData {P : Profile} (hwf : ProfileWF P = true) {hb : Nat} {compressed : Bool}
    {cont : Option Msg → DecSt → DP} {Q : DecSt → Prop} {F : FileSt → Prop} {h0 : Header} {c : Bool} {n0 : Nat}
    {st : DecSt}
    (hc : ∀ dm m st', st.defs.getD (if compressed = true then hb / 32 % 4 else hb % 16) none = some dm →
        Build P dm m → InvF P F h0 c n0 st' → wp Q (cont m st'))
    (hI : InvF P F h0 c n0 st) :
    wp Q (parseData P hb compressed st cont) := by
  rw [parseData_pre]
  have hpre := dataPre_build P hwf hb compressed st
  cases hd : dataPre P hb compressed st with
  | stop p st' =>
    rw [hd] at hpre
    cases (show p = false from hpre)
    rfl
  | go dm m st' =>
    rw [hd] at hpre
    have hs := dataPre_go hd
    have hlook := hs.look
    have k := hs.reads.kept
    exact wp_parseFields hwf
      (fun m2 st2 hm2 hI2 => wp_skipDev (fun st3 hI3 => hc dm m2 st3 hlook hm2 hI3) dm.dev hI2)
      (hI.inv.defs _ dm hlook) hpre (hI.of_eq k.file k.defs (by have := hs.n; omega) k.hdr)

theorem wp_parseDefinition {P : Profile} {hb : Nat} {cont : DefMsg → DecSt → DP} {Q : DecSt → Prop}
    {F : FileSt → Prop} {h0 : Header} {c : Bool} {n0 : Nat} {st : DecSt}
    (hc : ∀ dm st', (∀ fd ∈ dm.fields, validateFieldDef P dm.global fd = true) → InvF P F h0 c n0 st' →
      st'.defs = st.defs → wp Q (cont dm st'))
    (hI : InvF P F h0 c n0 st) :
    wp Q (parseDefinition P hb st cont) :=
  parseDefinition_cases P hb cont st (fun _ st' => InvF P F h0 c n0 st' ∧ st'.defs = st.defs) (fun _ p => wp Q p)
    ⟨hI, rfl⟩
    (fun _ _ _ _ hI' prem => wp_rd _ _ _ _ fun raw _ => prem raw ⟨hI'.1.of_eq rfl rfl (Nat.le_add_right ..) rfl, hI'.2⟩)
    (fun _ _ _ _ => rfl) (fun _ st' dm hI' hv => hc dm st' hv hI'.1 hI'.2)

/-- `d.file.add(msg)` never hits a nil adder once the container is attached (or for file_id) -/
theorem addMsg_inv {P : Profile} {F : FileSt → Prop} (hF : FileInv P F) {h0 : Header} {c : Bool} {n0 : Nat}
    {dm : DefMsg} {m : Option Msg} (hm : Build P dm m) {st : DecSt} (hI : InvF P F h0 c n0 st)
    (h : c = true ∨ ∀ msg, m = some msg → msg.num = mnFileId) :
    ∃ st', addMsg P m st = some st' ∧ InvF P F h0 c n0 st' := by
  cases m with
  | none => exact ⟨st, rfl, hI⟩
  | some msg =>
    obtain ⟨f, hf, hcx⟩ := hI.inv.file
    have hcond : f.cidx.isSome = true ∨ msg.num = mnFileId := by
      rcases h with h | h
      · exact Or.inl (hcx h)
      · exact Or.inr (h msg rfl)
    obtain ⟨f', g', hadd, hci⟩ := add_succeeds P f msg st.glob hcond
    refine ⟨_, addMsg_some.2 ⟨f, f', g', hf, hadd, rfl⟩, ⟨⟨f', rfl, fun hc => by rw [hci]; exact hcx hc⟩, hI.inv.defs, hI.inv.n, hI.inv.hdr⟩, ?_⟩
    intro x hx
    cases hx
    exact hF.add f msg st.glob f' g' (hI.sat f hf) (hm.msgOK msg rfl) hadd

theorem wp_recordBody {P : Profile} (hwf : ProfileWF P = true) {F : FileSt → Prop} (hF : FileInv P F)
    {K : DecSt → DP} {Q : DecSt → Prop} {h0 : Header} {n0 : Nat} {st : DecSt} (hI : InvF P F h0 true n0 st)
    (hK : ∀ st', InvF P F h0 true (st.n + 1) st' → wp Q (K st')) : wp Q (recordBody P st K) := by
  refine wp_rd _ _ _ _ fun hbs _ => ?_
  have hI1 : InvF P F h0 true (st.n + 1) { st with n := st.n + 1, crc := Crc.update st.crc hbs } :=
    ⟨⟨hI.inv.file, hI.inv.defs, Nat.le_refl _, hI.inv.hdr⟩, hI.sat⟩
  have data : ∀ comp : Bool, wp Q (parseData P (hbs.headD 0).toNat comp
      { st with n := st.n + 1, crc := Crc.update st.crc hbs } (addThen P K)) := by
    intro comp
    refine wp_parseData hwf ?_ hI1
    intro dm m st2 _ hm hI2
    obtain ⟨st3, h3, hI3⟩ := addMsg_inv hF hm hI2 (Or.inl rfl)
    simp only [addThen, h3]
    exact hK st3 hI3
  unfold recordAfter
  split
  · exact data true
  · split
    · exact wp_parseDefinition (fun dm st2 hdm hI2 _ => hK _ (hI2.setDef dm hdm)) hI1
    · exact data false

/-- `hfuel` is C01's termination argument: the fuel is never what ends the loop -/
theorem wp_decodeFileData {P : Profile} (hwf : ProfileWF P = true) {F : FileSt → Prop} (hF : FileInv P F)
    {limit : Nat} {cont : DecSt → DP} {Q : DecSt → Prop} {h0 : Header} {n0 : Nat}
    (hc : ∀ st, InvF P F h0 true n0 st → limit ≤ st.n → wp Q (cont st))
    {fuel : Nat} {st : DecSt} (hI : InvF P F h0 true n0 st) (hfuel : limit < fuel + st.n) :
    wp Q (decodeFileData P limit fuel st cont) := by
  induction fuel generalizing st with
  | zero => exact hc st hI (by omega)
  | succ fuel ih =>
    by_cases hlt : st.n < limit
    · rw [decodeFileData_succ P limit fuel st cont hlt]
      have hn0 := hI.inv.n
      exact wp_recordBody hwf hF hI fun st' h' => ih (h'.mono (by omega)) (by have := h'.inv.n; omega)
    · rw [decodeFileData_done P limit _ st cont hlt]
      exact hc st hI (by omega)

theorem wp_parseFileIdMsg {P : Profile} (hwf : ProfileWF P = true) {F : FileSt → Prop} (hF : FileInv P F)
    {cont : DecSt → DP} {Q : DecSt → Prop} {h0 : Header} {n0 : Nat}
    (hc : ∀ st, InvF P F h0 false n0 st → wp Q (cont st)) {st : DecSt}
    (hI : InvF P F h0 false n0 st) (hnone : ∀ i, st.defs.getD i none = none) :
    wp Q (parseFileIdMsg P st cont) := by
  unfold parseFileIdMsg
  apply wp_rd
  intro hbs _
  dsimp only
  split
  · rfl
  · have hI1 : InvF P F h0 false n0 { st with n := st.n + 1, crc := Crc.update st.crc hbs } :=
      hI.of_eq rfl rfl (by simp only; omega) rfl
    refine wp_parseDefinition ?_ hI1
    intro dm st2 hdm hI2 hdefs
    split
    · rfl
    · rename_i hglob
      have hglob' : dm.global = mnFileId := by simpa using hglob
      apply wp_rd
      intro hbs2 _
      refine wp_parseData hwf (h0 := h0) (c := false) (n0 := n0) ?_
        ((hI2.setDef dm hdm).of_eq rfl rfl (Nat.le_add_right ..) rfl)
      intro dm' m st4 hlook hm4 hI4
      cases m with
      | none =>
        -- the only definition stored so far is the file_id one, and file_id is a known message
        exfalso
        have hkn : P.known mnFileId = true := (ProfileWF_facts hwf).fileId
        simp only [Bool.false_eq_true, ↓reduceIte] at hlook
        rw [getD_setAt, hdefs] at hlook
        split at hlook
        · cases hlook
          cases hm4.1 (hglob' ▸ hkn)
        · rw [hnone] at hlook
          cases hlook
      | some msg =>
        dsimp only
        split
        · rfl
        · rename_i hnum
          have hnum' : msg.num = mnFileId := by simpa using hnum
          obtain ⟨st5, h5, hI5⟩ := addMsg_inv hF hm4 hI4
            (Or.inr (fun m' hm' => by cases hm'; exact hnum'))
          simp only [h5]
          exact hc st5 hI5

/-- a normal end of the record phase: the data area used up, a File with `F` and its container -/
def RecordsEnd (F : FileSt → Prop) (mode : Mode) (dataSize : Nat) (x : DecSt) : Prop :=
  (mode ≠ .fileIdOnly → dataSize ≤ x.n) ∧ ∃ f, x.file = some f ∧ F f ∧ (mode ≠ .fileIdOnly → f.cidx.isSome = true)

theorem recordsProg_ends (P : Profile) (hwf : ProfileWF P = true) (F : FileSt → Prop) (hF : FileInv P F) (mode : Mode)
    {st' : DecSt} (hnone : ∀ i, st'.defs.getD i none = none)
    (hF0 : F { hdr := st'.hdr, fileId := zeroFileId P }) {s : SpecSt} {o : ErrExit ⊕ DecSt} {n' : Nat} {s' : SpecSt}
    (hr : runSpecD st'.hdr.dataSize (recordsProg P mode (st'.recStart P)) 0 s = (o, n', s')) :
    Sum.elim NP (RecordsEnd F mode st'.hdr.dataSize) o := by
  have hI : InvF P F st'.hdr false 0 (st'.recStart P) := by
    refine ⟨⟨⟨_, rfl, fun h => by cases h⟩, ?_, Nat.zero_le _, rfl⟩, fun f hf => by cases hf; exact hF0⟩
    intro i dm hdm
    rw [show (st'.recStart P).defs = st'.defs from rfl, hnone i] at hdm
    cases hdm
  refine wp.run _ ?_ hr
  unfold recordsProg
  refine wp_parseFileIdMsg hwf hF ?_ hI hnone
  intro st2 hI2
  obtain ⟨f, hf, _⟩ := hI2.inv.file
  split
  · rename_i hm
    exact ⟨fun hne => absurd hm hne, f, hf, hI2.sat f hf, fun hne => absurd hm hne⟩
  · simp only [hf]
    cases hinit : f.init P with
    | error c => rfl
    | ok f' =>
      dsimp only
      have hh : st2.hdr = st'.hdr := hI2.inv.hdr
      rw [hh]
      apply wp_decodeFileData hwf hF (h0 := st'.hdr) (n0 := 0)
      · intro st3 hI3 hle
        obtain ⟨f3, hf3, hc3⟩ := hI3.inv.file
        exact ⟨fun _ => hle, f3, hf3, hI3.sat f3 hf3, fun _ => hc3 rfl⟩
      · refine ⟨⟨⟨f', rfl, fun _ => by obtain ⟨i, _, rfl⟩ := init_ok_iff.mp hinit; rfl⟩, hI2.inv.defs, Nat.zero_le _, rfl⟩, ?_⟩
        intro x hx
        cases hx
        exact hF.init f f' (hI2.sat f hf) hinit
      · simp only; omega

theorem decodeProg_never_panics (P : Profile) (hwf : ProfileWF P = true) (m : Mode) (g : Globals) (s : SpecSt) :
    (runSpec (decodeProg P m g) s).1.panic = false := by
  refine decodeProg_cases (fun o => o.panic = false) P m g s (fun _ _ _ _ => rfl) fun size st' h => ?_
  obtain ⟨o, j, _, hjl, eD⟩ := runSpecD_shape st'.hdr.dataSize (recordsProg P m (st'.recStart P)) 0
    ((s.adv size).framed (s.taken + size + st'.hdr.dataSize))
  have hw := recordsProg_ends P hwf _ (FileInv.trivial P) m h.defs trivial eD
  cases m with
  | full =>
    rw [decodeProg_full h eD]
    cases o with
    | inl y => exact y.toOutcome_no_panic hw
    | inr x =>
      -- the counter of the state is the interpreter's: at a normal end the data area is used up
      have hxn : x.n = st'.n + _ := (Tracks.run_end (recordsProg_tracks P .full _) eD).2
      have hle : st'.hdr.dataSize ≤ x.n := hw.1 (by decide)
      rw [h.n] at hxn
      simp only [Sum.elim_inr]
      rw [if_pos (by have := hjl (Nat.zero_le _); omega)]
      exact checkCRC_no_panic _ _
  | headerOnly =>
    rw [decodeProg_headerOnly h]
    rfl
  | fileIdOnly =>
    rw [decodeProg_fileIdOnly h eD]
    cases o with
    | inl y => exact y.toOutcome_no_panic hw
    | inr x => rfl
  | crcOnly =>
    rw [decodeProg_crcOnly h]
    split
    · exact checkCRC_no_panic _ _
    · rfl

/-- `F`: any property of the initial File that `File.add`, `File.init` and recording the file CRC keep -/
theorem full_success_file (P : Profile) (hwf : ProfileWF P = true) (F : FileSt → Prop) (hF : FileInv P F)
    (hF0 : ∀ h : Header, HdrLegal h → F { hdr := h, fileId := zeroFileId P })
    (hcrc : ∀ f crc, F f → F { f with crc := crc }) (g : Globals) (s : SpecSt)
    (hs : (runSpec (decodeProg P .full g) s).1.success) :
    ∃ f, (runSpec (decodeProg P .full g) s).1.st.file = some f ∧ F f ∧ f.cidx.isSome = true := by
  obtain ⟨size, st', x, h, _, e, hD, _⟩ := decodeProg_success (.inl rfl) hs
  have hleg : HdrLegal st'.hdr :=
    headerCheck_legal _ st' _ _ size h.legal rfl h.check
  obtain ⟨_, f, hf, hFf, hci⟩ := recordsProg_ends P hwf F hF .full h.defs (hF0 _ hleg) (hD rfl)
  rw [e]
  generalize SpecSt.framed _ _ = s2
  rw [checkCRC_run]
  split
  · dsimp only
    split <;> exact ⟨{ f with crc := leNat (s2.rest.take 2) }, by simp only [okOut, fail, hf, Option.map_some],
      hcrc _ _ hFf, hci (by decide)⟩
  · exact ⟨f, hf, hFf, hci (by decide)⟩

end Fit
