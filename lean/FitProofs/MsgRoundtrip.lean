import FitProofs.EncodeItems
import FitProofs.Groups
/-
  C06, message level: the field loop of the decoder, run on the parts the encoder wrote for a
  message, rebuilds the message — given that every written field round-trips (supplied per field
  kind by the theorems of FitProps/C06.lean).
-/
namespace Fit

/-- field `pf` with value `v` goes through `writeField` / `applyField` unchanged, whatever the message
    under construction holds there: `∀ inv, FieldRTG … v inv v` -/
def FieldRT (P : Profile) (dm : DefMsg) (pf : PField) (k : SlotKind) (v : Val) : Prop :=
  ∀ (msg : Msg) (ts : TsRef) (part : Bytes), writeField dm.arch pf k v = .ok part →
    ∃ ts', applyField P dm true (fdOf pf) part (some msg) ts =
      .ok (some { msg with vals := setAt msg.vals pf.sindex v }) ts'

/-- … when the message under construction still holds `inv` (I for "from the invalid value") at
    that position: `FieldRTG … v inv v` -/
def FieldRTI (P : Profile) (dm : DefMsg) (pf : PField) (k : SlotKind) (v inv : Val) : Prop :=
  ∀ (msg : Msg) (ts : TsRef) (part : Bytes), msg.vals[pf.sindex]? = some inv → writeField dm.arch pf k v = .ok part →
    ∃ ts', applyField P dm true (fdOf pf) part (some msg) ts =
      .ok (some { msg with vals := setAt msg.vals pf.sindex v }) ts'

/-- the general form (G, also in `stepFields_rebuildsG`): field `pf` with
    value `v`, written by `writeField`, is read back by `applyField` as `out`, when the message under
    construction holds `inv` at that position -/
def FieldRTG (P : Profile) (dm : DefMsg) (pf : PField) (k : SlotKind) (v inv out : Val) : Prop :=
  ∀ (msg : Msg) (ts : TsRef) (part : Bytes), msg.vals[pf.sindex]? = some inv → writeField dm.arch pf k v = .ok part →
    ∃ ts', applyField P dm true (fdOf pf) part (some msg) ts =
      .ok (some { msg with vals := setAt msg.vals pf.sindex out }) ts'

theorem FieldRT.of_field_roundtrip {P : Profile} {dm : DefMsg} {pf : PField} {k : SlotKind} {v : Val} {ts' : TsRef → TsRef}
    (h : ∀ msg ts, ∃ part, writeField dm.arch pf k v = .ok part ∧ part.length = (fdOf pf).size ∧
      applyField P dm true (fdOf pf) part (some msg) ts =
        .ok (some { msg with vals := setAt msg.vals pf.sindex v }) (ts' ts)) :
    FieldRT P dm pf k v := by
  intro msg ts part hpart
  obtain ⟨part0, h1, _, h2⟩ := h msg ts
  rw [h1] at hpart
  cases hpart
  exact ⟨_, h2⟩

theorem FieldRT.toI {P : Profile} {dm : DefMsg} {pf : PField} {k : SlotKind} {v : Val} (h : FieldRT P dm pf k v) (inv : Val) :
    FieldRTI P dm pf k v inv := fun msg ts part _ hp => h msg ts part hp

theorem FieldRTI.toG {P : Profile} {dm : DefMsg} {pf : PField} {k : SlotKind} {v inv : Val}
    (h : FieldRTI P dm pf k v inv) : FieldRTG P dm pf k v inv v := h

theorem FieldRT.toG {P : Profile} {dm : DefMsg} {pf : PField} {k : SlotKind} {v : Val} (h : FieldRT P dm pf k v) (inv : Val) :
    FieldRTG P dm pf k v inv v := (h.toI inv).toG

theorem stepFields_rebuildsG (P : Profile) (dm : DefMsg) {pm : PMsg} {src : Msg}
    {fs : List PField} {parts : List Bytes} (inv out : PField → Val)
    (hsorted : fs.Pairwise (fun a b => a.sindex < b.sindex))
    (hparts : fs.map (fieldWrite dm.arch pm src) = parts.map .ok)
    (hrt : ∀ pf ∈ fs, ∀ k v, pm.layout[pf.sindex]? = some k → src.vals[pf.sindex]? = some v →
      FieldRTG P dm pf k v (inv pf) (out pf))
    (msg : Msg) (st : DecSt) (hinit : ∀ pf ∈ fs, msg.vals[pf.sindex]? = some (inv pf)) :
    ∃ msg' st', stepFields P dm true (fs.map fdOf) parts (some msg) st = .ok (some msg') st' ∧
      msg'.num = msg.num ∧ msg'.vals.length = msg.vals.length ∧
      (∀ pf ∈ fs, msg'.vals[pf.sindex]? = some (out pf)) ∧
      (∀ i, (∀ pf ∈ fs, pf.sindex ≠ i) → msg'.vals[i]? = msg.vals[i]?) := by
  induction fs generalizing parts msg st with
  | nil =>
    cases parts with
    | nil => exact ⟨msg, st, rfl, rfl, rfl, (fun pf h => by cases h), (fun i _ => rfl)⟩
    | cons _ _ => simp at hparts
  | cons pf fs ih =>
    cases parts with
    | nil => simp at hparts
    | cons part parts =>
      simp only [List.map_cons, List.cons.injEq] at hparts
      obtain ⟨k, v, hk, hv, hw⟩ := fieldWrite_ok hparts.1
      obtain ⟨hlt, hsorted'⟩ := List.pairwise_cons.mp hsorted
      have hin := hinit pf (List.mem_cons_self ..)
      obtain ⟨ts', hap⟩ := hrt pf (List.mem_cons_self ..) k v hk hv msg
        (fieldSt P dm true (fdOf pf) part st).ts part hin hw
      rw [List.map_cons, stepFields_cons, hap]
      -- the later fields sit at other positions, which the head field's write leaves alone
      obtain ⟨msg', st', h1, h2, h3, h4, h5⟩ := ih hsorted' hparts.2 (fun p hp => hrt p (List.mem_cons_of_mem _ hp))
        { msg with vals := setAt msg.vals pf.sindex (out pf) } _
        (fun q hq => by
          rw [getElem?_setAt_ne _ _ _ _ (Nat.ne_of_lt (hlt q hq))]
          exact hinit q (List.mem_cons_of_mem _ hq))
      refine ⟨msg', st', h1, h2, by rw [h3, length_setAt], ?_, ?_⟩
      · intro p hp
        cases hp with
        | head =>
          rw [h5 _ fun q hq => Nat.ne_of_gt (hlt q hq)]
          exact getElem?_setAt_self _ _ _ (List.getElem?_eq_some_iff.mp hin).1
        | tail _ hp' => exact h4 p hp'
      · intro i hi
        rw [h5 i fun q hq => hi q (List.mem_cons_of_mem _ hq)]
        exact getElem?_setAt_ne _ _ _ _ (hi pf (List.mem_cons_self ..))

theorem stepFields_rebuildsI (P : Profile) (dm : DefMsg) (pm : PMsg) (src : Msg)
    (fs : List PField) (parts : List Bytes) (inv : PField → Val)
    (hsorted : fs.Pairwise (fun a b => a.sindex < b.sindex))
    (hparts : (fs.map fun pf =>
      match pm.layout[pf.sindex]?, src.vals[pf.sindex]? with
      | some k, some v => writeField dm.arch pf k v
      | _, _ => .error .panic) = parts.map .ok)
    (hrt : ∀ pf ∈ fs, ∀ k v, pm.layout[pf.sindex]? = some k → src.vals[pf.sindex]? = some v → FieldRTI P dm pf k v (inv pf))
    (hgf : ∀ pf ∈ fs, P.getField dm.global pf.num = some pf)
    (msg : Msg) (st : DecSt) (hlen : msg.vals.length = src.vals.length)
    (hinit : ∀ pf ∈ fs, msg.vals[pf.sindex]? = some (inv pf)) :
    ∃ msg' st', stepFields P dm true (fs.map fdOf) parts (some msg) st = .ok (some msg') st' ∧
      msg'.num = msg.num ∧ msg'.vals.length = src.vals.length ∧
      (∀ i, (∃ pf ∈ fs, pf.sindex = i) → msg'.vals[i]? = src.vals[i]?) ∧
      (∀ i, (¬ ∃ pf ∈ fs, pf.sindex = i) → msg'.vals[i]? = msg.vals[i]?) := by
  obtain ⟨msg', st', h1, h2, h3, h4, h5⟩ := stepFields_rebuildsG P dm inv
    (fun pf => src.vals.getD pf.sindex (.u 0)) hsorted hparts
    (fun pf hp k v hk hv => by rw [getD_of_getElem? _ _ _ _ hv]; exact (hrt pf hp k v hk hv).toG)
    msg st hinit
  refine ⟨msg', st', h1, h2, h3.trans hlen, ?_, fun i hi => h5 i fun pf hp e => hi ⟨pf, hp, e⟩⟩
  rintro _ ⟨pf, hp, rfl⟩
  have hlt : pf.sindex < src.vals.length := hlen ▸ (List.getElem?_eq_some_iff.mp (hinit pf hp)).1
  rw [h4 pf hp, List.getD_eq_getElem?_getD, List.getElem?_eq_getElem hlt, Option.getD_some]

theorem fieldWrite_of_parts {arch : Endian} {pm : PMsg} {m : Msg} {fs : List PField} {parts : List Bytes}
    (h : fs.map (fieldWrite arch pm m) = parts.map .ok) (pf : PField) (hp : pf ∈ fs) :
    ∃ k v, pm.layout[pf.sindex]? = some k ∧ m.vals[pf.sindex]? = some v := by
  have : fieldWrite arch pm m pf ∈ parts.map .ok := h ▸ List.mem_map_of_mem hp
  obtain ⟨part, _, e⟩ := List.mem_map.mp this
  obtain ⟨k, v, hk, hv, _⟩ := fieldWrite_ok e.symm
  exact ⟨k, v, hk, hv⟩

/-- `stepFields_rebuildsG` started from the constructor's message, for the record written under `fs` -/
theorem record_rebuilds (P : Profile) (arch : Endian) (g : Nat) {pm : PMsg} {fs : List PField}
    (hsorted : fs.Pairwise (fun a b => a.sindex < b.sindex))
    {m : Msg} (hlen : m.vals.length = pm.invalid.length) {parts : List Bytes}
    (hparts : fs.map (fieldWrite arch pm m) = parts.map .ok) (out : PField → Val → Val)
    (hrt : ∀ pf ∈ fs, ∀ k v, pm.layout[pf.sindex]? = some k → m.vals[pf.sindex]? = some v →
      FieldRTG P (defOf arch g fs) pf k v (pm.invalid.getD pf.sindex (.u 0)) (out pf v))
    (hrest : ∀ i v, m.vals[i]? = some v → (∀ pf ∈ fs, pf.sindex ≠ i) → pm.invalid[i]? = some v)
    (st : DecSt) :
    ∃ vals' st', stepFields P (defOf arch g fs) true (fs.map fdOf) parts (some ⟨g, pm.invalid⟩) st =
        .ok (some ⟨g, vals'⟩) st' ∧ vals'.length = m.vals.length ∧
      (∀ pf ∈ fs, ∀ v, m.vals[pf.sindex]? = some v → vals'[pf.sindex]? = some (out pf v)) ∧
      (∀ i, (∀ pf ∈ fs, pf.sindex ≠ i) → vals'[i]? = m.vals[i]?) := by
  obtain ⟨⟨g', vals'⟩, st', h1, h2, h3, h4, h5⟩ := stepFields_rebuildsG P (defOf arch g fs)
    (fun pf => pm.invalid.getD pf.sindex (.u 0)) (fun pf => out pf (m.vals.getD pf.sindex (.u 0))) hsorted hparts
    (fun pf hp k v hk hv => by rw [getD_of_getElem? _ _ _ _ hv]; exact hrt pf hp k v hk hv) ⟨g, pm.invalid⟩ st
    (fun pf hp => by
      obtain ⟨_, v, _, hv⟩ := fieldWrite_of_parts hparts pf hp
      have : pf.sindex < pm.invalid.length := hlen ▸ (List.getElem?_eq_some_iff.mp hv).1
      simp [List.getD_eq_getElem?_getD, List.getElem?_eq_getElem this])
  cases h2
  refine ⟨vals', st', h1, h3.trans hlen.symm, ?_, ?_⟩
  · intro pf hp v hv
    rw [h4 pf hp, getD_of_getElem? _ _ _ _ hv]
  · intro i hi
    rw [h5 i hi]
    cases hv : m.vals[i]? with
    | some v => exact hrest i v hv hi
    | none => exact List.getElem?_eq_none (hlen ▸ List.getElem?_eq_none_iff.mp hv)

theorem encodeOne_ok {P : Profile} (hwf : ProfileWF P = true) {arch : Endian} {m : Msg} {bs : Bytes}
    (h : encodeOne P arch m = .ok bs) :
    ∃ pm fs parts, P.msg? m.num = some pm ∧ pm.hasCtor = true ∧ pm.hasType = true ∧
      m.vals.length = pm.invalid.length ∧ encodeMesgDef pm m = some fs ∧
      fs.map (fieldWrite arch pm m) = parts.map .ok ∧ fs.length < 256 ∧
      bs = serialize [.defn (defOf arch m.num fs) false, .data 0 parts []] := by
  rw [encodeOne_eq_group P hwf] at h
  obtain ⟨pm, defs, partss, ⟨hpm, hc, ht, hlen, hdefs⟩, hall, hbs⟩ := encodeGroup_ok h
  have hsm := (unionFields_spec (msg?_facts hwf hpm) hdefs).small
  cases hd : encodeMesgDef pm m with
  | none => simp [hd] at hdefs
  | some fs =>
    have : defs = [fs] := by simpa [hd] using hdefs.symm
    subst this
    rw [unionFields_single (msg?_facts hwf hpm) hd] at hall hbs hsm
    obtain ⟨parts, rfl, hp⟩ := hall.of_singleton
    exact ⟨pm, fs, parts, hpm, hc, ht, hlen m (List.mem_cons_self ..), hd, hp, hsm, hbs⟩

theorem message_roundtrip (P : Profile) (hwf : ProfileWF P = true) (arch : Endian) (m : Msg) (bs : Bytes)
    (pm : PMsg) (hpm : P.msg? m.num = some pm) (hkn : pm.known = true)
    (h : encodeOne P arch m = .ok bs)
    (hrt : ∀ pf ∈ pm.fields, ∀ k v, pm.layout[pf.sindex]? = some k → m.vals[pf.sindex]? = some v →
      isInvalidVal pm pf.sindex v = false → ∀ fs, FieldRT P (defOf arch m.num fs) pf k v)
    (hinv : ∀ i v, m.vals[i]? = some v → isInvalidVal pm i v = true → pm.invalid[i]? = some v) :
    ∃ (fs : List PField) (parts : List Bytes),
      bs = serialize [.defn (defOf arch m.num fs) false, .data 0 parts []] ∧
      (∀ pf ∈ fs, pf ∈ pm.fields) ∧ FieldsFit (fs.map fdOf) parts ∧ fs.length < 256 ∧
      ∀ st : DecSt, ∃ st', stepFields P (defOf arch m.num fs) true (defOf arch m.num fs).fields parts
        (some ⟨m.num, pm.invalid⟩) st = .ok (some m) st' := by
  obtain ⟨pm', fs, parts, hpm', hc, ht, hvl, hdef, hparts, hsm, hbs⟩ := encodeOne_ok hwf h
  rw [hpm] at hpm'
  cases hpm'
  have hf := msg?_facts hwf hpm
  have hmem := encodeMesgDef_mem hdef
  obtain ⟨hsp1, hsp2⟩ := encodeMesgDef_spec hdef
  refine ⟨fs, parts, hbs, hmem, fieldsFit_of_writes arch pm m fs parts (fun pf hp => hf.fieldFacts pf (hmem pf hp)) hparts,
    hsm, fun st => ?_⟩
  obtain ⟨vals', st', e1, e2, e3, e4⟩ := record_rebuilds P arch m.num (encodeMesgDef_sorted hdef) hvl hparts (fun _ v => v)
    (fun pf hp k v hk hv => (hrt pf (hmem pf hp) k v hk hv
      (by have := (hsp1 pf hp).2; rwa [getD_of_getElem? _ _ _ _ hv] at this) fs).toG _)
    (fun i v hv hi => hinv i v hv (invalid_of_not_covered hsp2 hv hi)) st
  -- the values rebuilt are the message's own, position by position
  have : vals' = m.vals := List.ext_getElem? fun i => by
    by_cases hi : ∃ pf ∈ fs, pf.sindex = i
    · obtain ⟨pf, hp, rfl⟩ := hi
      cases hv : m.vals[pf.sindex]? with
      | none => exact List.getElem?_eq_none (e2 ▸ List.getElem?_eq_none_iff.mp hv)
      | some v => exact e3 pf hp v hv
    · exact e4 i fun pf hp e => hi ⟨pf, hp, e⟩
  rw [this] at e1
  exact ⟨st', e1⟩

end Fit
