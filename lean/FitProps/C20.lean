import FitModel.Strings
import FitModel.Gen.StrOK
/-!
  C20 — every profile constant prints its profile name; string tables match the types.

  `Gen.Str.tables` is regenerated on every run from the checked-in sources: the constants of every
  generated type (types.go, types_man.go) and the *shape* of every generated `String` method with
  its name constants, index arrays, case bounds, offsets and map entries as written
  (types_string.go, types_man.go).  `strOf` evaluates a shape the way the Go code does.
-/
namespace Fit.Props.C20
open Fit.Str

/-- every checked-in string table is right on every value it covers, covers every constant,
    and covers nothing but constants (kernel evaluation of `fastOK`, chunk by chunk, in
    FitModel/Gen/StrOK.lean) -/
theorem gen_strings_wf : Fit.Gen.Str.tables.all tableOK = true := Fit.Gen.Str.tables_ok

/-- a value (of an unsigned type) outside everything the method's cases cover takes the default
    branch: it prints as `Type(n)` -/
theorem uncovered_default (T : Table) (i : Int) (hi : 0 ≤ i ∧ i < (2 ^ T.bits : Nat))
    (hf : shapeFits T = true) (h : i ∉ covered T) : strOf T i = dflt T i := by
  unfold covered at h
  cases hsh : T.shape with
  | runs rs =>
    unfold strOf
    rw [hsh] at h
    have : rs.find? (fun r => decide (r.lo ≤ i ∧ i ≤ r.hi)) = none :=
      List.find?_eq_none.2 fun r hr hc =>
        h (List.mem_flatMap.2 ⟨r, hr, (mem_intRange _ _ _).2 (of_decide_eq_true hc)⟩)
    simp only [hsh, this]
  | single off name index =>
    rw [hsh, mem_intRange] at h
    exact (strOf_single hsh hf).2 hi h
  | map es =>
    unfold strOf
    rw [hsh] at h
    have : es.find? (fun e => e.1 == i) = none :=
      List.find?_eq_none.2 fun e he hc => h (List.mem_map.2 ⟨e, he, beq_iff_eq.1 hc⟩)
    simp only [hsh, this]

/-- **String is correct on every value `0 ≤ i < 2 ^ bits`** (the whole range of the type: no generated
    table is signed): a value that is a constant prints one of its names without the type prefix,
    every other value prints as `Type(n)`. -/
theorem string_correct (T : Table) (h : tableOK T = true) (i : Int) (hi : 0 ≤ i ∧ i < (2 ^ T.bits : Nat)) :
    specOK T i (strOf T i) = true := by
  simp only [tableOK, Bool.and_eq_true, List.all_eq_true] at h
  obtain ⟨⟨⟨hf, h1⟩, h2⟩, _⟩ := h
  by_cases hc : i ∈ covered T
  · exact h1 i hc
  · rw [uncovered_default T i hi hf hc]
    unfold specOK
    have hn : T.consts.any (fun c => c.2 == i) = false :=
      List.any_eq_false.2 fun c hcm hce =>
        hc (beq_iff_eq.1 hce ▸ List.contains_iff_mem.1 (h2 c hcm))
    simp only [hn, Bool.false_eq_true, ↓reduceIte, beq_self_eq_true]

/-- the theorem applies to every generated table -/
theorem gen_string_correct (T : Table) (hT : T ∈ Fit.Gen.Str.tables) (i : Int)
    (hi : 0 ≤ i ∧ i < (2 ^ T.bits : Nat)) : specOK T i (strOf T i) = true := by
  have := gen_strings_wf
  rw [List.all_eq_true] at this
  exact string_correct T (this T hT) i hi

/-- non-vacuity: ActivityClass(127) prints "Level", ActivityClass(5) prints "ActivityClass(5)" -/
example : (strOf Fit.Gen.Str.t_ActivityClass 127).toString = "Level" ∧
    (strOf Fit.Gen.Str.t_ActivityClass 5).toString = "ActivityClass(5)" := by
  constructor <;> rfl

end Fit.Props.C20
