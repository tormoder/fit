import FitProofs.Pad
/-!
Padding is idempotent: what `Decode (Encode f)` returns (`wireFile`) is a fixed point of
`f ↦ Decode (Encode f)` as far as padding goes.
-/
namespace Fit

theorem padVal_idem (pf : PField) (v : Val) : padVal pf (padVal pf v) = padVal pf v := by
  unfold padVal
  split
  · cases v with
    | us xs | is xs =>
      simp only [Option.getD_some, List.length_append, List.length_replicate]
      rw [show pf.length - ((xs.getD []).length + (pf.length - (xs.getD []).length)) = 0 by omega]
      simp
    | _ => rfl
  · rfl

theorem wireMsg_getD (pm : PMsg) (ms : List Msg) (m : Msg) (i : Nat) :
    (wireMsg pm ms m).vals.getD i (.u 0) =
      if i < m.vals.length then wireVal pm ms i (m.vals.getD i (.u 0)) else .u 0 := by
  rw [List.getD_eq_getElem?_getD, wireMsg_getElem?, List.getD_eq_getElem?_getD]
  by_cases h : i < m.vals.length
  · simp [h]
  · simp [h]

theorem onIn_wire_false (pm : PMsg) (ms : List Msg) (pf : PField) (hpf : fieldBySindex pm pf.sindex = some pf)
    (h : onIn pm ms pf = false) : onIn pm (ms.map (wireMsg pm ms)) pf = false := by
  have hall := h
  unfold onIn at hall ⊢
  rw [List.any_eq_false] at hall ⊢
  intro m' hm'
  obtain ⟨m, hm, rfl⟩ := List.mem_map.mp hm'
  have hm0 := hall m hm
  rw [wireMsg_getD]
  split
  · rwa [wireVal_some hpf, h, if_neg Bool.false_ne_true]
  · rename_i hl
    rwa [List.getD_eq_getElem?_getD, List.getElem?_eq_none (Nat.le_of_not_lt hl)] at hm0

theorem wireVal_idem (pm : PMsg) (ms : List Msg) (i : Nat) (v : Val) :
    wireVal pm (ms.map (wireMsg pm ms)) i (wireVal pm ms i v) = wireVal pm ms i v := by
  cases hf : fieldBySindex pm i with
  | none => rw [wireVal_none hf, wireVal_none hf]
  | some pf =>
    rw [wireVal_some hf, wireVal_some hf]
    -- a carried field is padded once more if it is still carried (padding twice is padding once)
    -- and left alone if not; an uncarried field stays uncarried
    cases ho : onIn pm ms pf with
    | true =>
      simp only [↓reduceIte]
      split
      · exact padVal_idem pf v
      · rfl
    | false =>
      rw [onIn_wire_false pm ms pf (by rw [fieldBySindex_sindex hf]; exact hf) ho]
      rfl

theorem wireMsg_idem (pm : PMsg) (ms : List Msg) (m : Msg) :
    wireMsg pm (ms.map (wireMsg pm ms)) (wireMsg pm ms m) = wireMsg pm ms m := by
  have hv : (wireMsg pm (ms.map (wireMsg pm ms)) (wireMsg pm ms m)).vals = (wireMsg pm ms m).vals := by
    apply List.ext_getElem?
    intro i
    rw [wireMsg_getElem?, wireMsg_getElem?]
    cases m.vals[i]? with
    | none => rfl
    | some v => simp only [Option.map_some]; rw [wireVal_idem]
  exact congrArg (Msg.mk m.num) hv

theorem wire1_idem (P : Profile) (m : Msg) : wire1 P (wire1 P m) = wire1 P m := by
  unfold wire1
  cases h : P.msg? m.num with
  | none => simp only [h]
  | some pm =>
    simp only [wireMsg_num, h]
    have := wireMsg_idem pm [m] m
    simpa using this

theorem wireSlot_idem (P : Profile) (many : Bool) (ms : List Msg) :
    wireSlot P many (wireSlot P many ms) = wireSlot P many ms := by
  cases ms with
  | nil => rfl
  | cons m0 rest =>
    cases many with
    | true =>
      cases h : P.msg? m0.num with
      | none =>
        have e : wireSlot P true (m0 :: rest) = m0 :: rest := by simp only [wireSlot, ↓reduceIte, h]
        rw [e, e]
      | some pm =>
        rw [wireSlot_many h]
        show wireSlot P true (wireMsg pm (m0 :: rest) m0 :: rest.map (wireMsg pm (m0 :: rest))) = _
        rw [wireSlot_many (by rw [wireMsg_num]; exact h)]
        show ((m0 :: rest).map (wireMsg pm (m0 :: rest))).map (wireMsg pm ((m0 :: rest).map (wireMsg pm (m0 :: rest)))) = _
        rw [List.map_map]
        exact List.map_congr_left fun m _ => wireMsg_idem pm (m0 :: rest) m
    | false => rw [wireSlot_one, wireSlot_one, wire1_idem]

theorem wireFile_slots_idem (P : Profile) (c : Container) (f : FileSt) :
    (c.slots.zip (wireFile P c f).slots).map (fun z => wireSlot P z.1.many z.2) = (wireFile P c f).slots := by
  show (c.slots.zip ((c.slots.zip f.slots).map fun z => wireSlot P z.1.many z.2)).map (fun z => wireSlot P z.1.many z.2) =
    (c.slots.zip f.slots).map fun z => wireSlot P z.1.many z.2
  rw [zip_map_zip, List.map_map]
  apply List.map_congr_left
  intro z _
  exact wireSlot_idem P z.1.many z.2

end Fit
