import FitProofs.Frame
import FitProofs.Framing
/-
  Whenever the record phase ends normally, the decoder's running checksum is the checksum of
  exactly the bytes consumed — the model's form of "every byte read inside the data area is written
  to the running CRC".  (Early exits carry an error or a panic; nothing is claimed of their state.)
-/
namespace Fit
open Fit.Crc

/-- the two counters `fill` maintains: running checksum and bytes consumed from the data area -/
def DecSt.ctr (st : DecSt) : BitVec 16 × Nat := (st.crc, st.n)

/-- Every normal end state of `p` carries the counters `c` advanced by the bytes read; an early exit
    may carry anything.  The program comes first: applying a lemma `Tracks (f st …) st.ctr` then fixes `st` from the
    program, and the counters of the state at hand agree with `st.ctr` by unfolding. -/
def Tracks : DP → BitVec 16 × Nat → Prop
  | .done st, c => st.ctr = c
  | .exit _, _ => True
  | .readBuf k _ cont, c => ∀ bs, bs.length = k → Tracks (cont bs) (update c.1 bs, c.2 + k)

/-- a continuation that tracks from whatever state it is given -/
def TracksK (cont : DecSt → DP) : Prop := ∀ st, Tracks (cont st) st.ctr

theorem rd_tracks (st : DecSt) (k : Nat) (cont : Bytes → DecSt → DP)
    (h : ∀ bs, bs.length = k → Tracks (cont bs { st with n := st.n + k, crc := update st.crc bs })
      (update st.crc bs, st.n + k)) : Tracks (rd st k cont) st.ctr := h

theorem Tracks.run_end {p : DP} {c : BitVec 16 × Nat} (h : Tracks p c) {limit n : Nat} {s : SpecSt} {st : DecSt}
    {n' : Nat} {s' : SpecSt} (hr : runSpecD limit p n s = (.inr st, n', s')) :
    st.crc = update c.1 (s.rest.take (n' - n)) ∧ st.n = c.2 + (n' - n) := by
  induction p generalizing c n s with
  | done x =>
    cases hr
    rw [Nat.sub_self]
    exact ⟨congrArg Prod.fst h, congrArg Prod.snd h⟩
  | exit e => cases hr
  | readBuf k onErr cont ih =>
    rw [runSpecD_readBuf] at hr
    split at hr
    · rename_i hk
      obtain ⟨_, j, _, _, e⟩ := runSpecD_shape limit (cont (s.rest.take k)) (n + k) (s.adv k)
      obtain ⟨h1, h2⟩ := ih _ (h (s.rest.take k) (by rw [List.length_take]; omega)) hr
      rw [e] at hr
      cases hr
      rw [h1, h2, ← update_append, s.adv_rest, ← List.take_add]
      exact ⟨by rw [show k + (n + k + j - (n + k)) = n + k + j - n by omega], by dsimp only; omega⟩
    · cases hr

theorem parseFields_tracks (P : Profile) (dm : DefMsg) (known : Bool) (cont : Option Msg → DecSt → DP)
    (h : ∀ m, TracksK (cont m)) (fds : List FieldDef) (m : Option Msg) (st : DecSt) :
    Tracks (parseFields P dm known fds m st cont) st.ctr := by
  induction fds generalizing m st with
  | nil => exact h m st
  | cons fd fds ih =>
    obtain ⟨uf, e⟩ := fieldBump_keeps P dm known fd st
    rw [parseFields_cons, e]
    refine rd_tracks { st with unkF := uf } _ _ fun raw _ => ?_
    split
    · trivial
    · trivial
    · exact ih _ (DecSt.setTs _ _)

theorem skipDev_tracks (cont : DecSt → DP) (h : TracksK cont) (ds : List DevDesc) (st : DecSt) :
    Tracks (skipDev ds st cont) st.ctr := by
  induction ds generalizing st with
  | nil => exact h st
  | cons d ds ih => exact rd_tracks _ _ _ fun _ _ => ih _

theorem parseData_tracks (P : Profile) (hb : Nat) (compressed : Bool) (cont : Option Msg → DecSt → DP)
    (h : ∀ m, TracksK (cont m)) (st : DecSt) :
    Tracks (parseData P hb compressed st cont) st.ctr := by
  rw [parseData_pre]
  cases hd : dataPre P hb compressed st with
  | stop b st' => cases b <;> trivial
  | go dm m st' =>
    have e : st'.ctr = st.ctr := Prod.ext (dataPre_go hd).crc (dataPre_go hd).n
    exact e ▸ parseFields_tracks _ _ _ _ (fun m st => skipDev_tracks _ (h m) _ st) _ m st'

theorem addMsg_ctr {P : Profile} {m : Option Msg} {st st' : DecSt} (h : addMsg P m st = some st') : st'.ctr = st.ctr :=
  (congrArg DecSt.ctr (addMsg_keeps h).1 :)

theorem addThen_tracks (P : Profile) {K : DecSt → DP} (h : TracksK K) (m : Option Msg) : TracksK (addThen P K m) := by
  intro st
  unfold addThen
  split
  · trivial
  · rename_i st' heq
    exact addMsg_ctr heq ▸ h st'

theorem parseDefinition_tracks (P : Profile) (hb : Nat) (cont : DefMsg → DecSt → DP)
    (h : ∀ dm, TracksK (cont dm)) (st : DecSt) :
    Tracks (parseDefinition P hb st cont) st.ctr := by
  -- after the bytes `bs` the counters are those of `st` advanced by `bs`; `M` tracks from there
  refine parseDefinition_cases P hb cont st (fun bs st' => st'.ctr = (update st.crc bs, st.n + bs.length))
    (fun bs p => Tracks p (update st.crc bs, st.n + bs.length)) rfl ?_ (fun _ _ _ _ => trivial)
    (fun bs st' dm hI _ => hI ▸ h dm st')
  intro bs st' k c hI prem
  refine hI ▸ rd_tracks st' k c fun raw hk => ?_
  have hI' : (update st'.crc raw, st'.n + k) = (update st.crc (bs ++ raw), st.n + (bs ++ raw).length) := by
    have h1 : st'.crc = update st.crc bs := congrArg Prod.fst hI
    have h2 : st'.n = st.n + bs.length := congrArg Prod.snd hI
    rw [h1, h2, update_append, List.length_append, hk, Nat.add_assoc]
  exact hI' ▸ prem raw hI'

theorem recordBody_tracks (P : Profile) {K : DecSt → DP} (h : TracksK K) (st : DecSt) :
    Tracks (recordBody P st K) st.ctr := by
  refine rd_tracks _ _ _ fun hbs _ => ?_
  unfold recordAfter
  split
  · exact parseData_tracks _ _ _ _ (addThen_tracks P h) _
  · split
    · exact parseDefinition_tracks _ _ _ (fun dm st2 => h { st2 with defs := setAt st2.defs dm.localT (some dm) }) _
    · exact parseData_tracks _ _ _ _ (addThen_tracks P h) _

theorem decodeFileData_tracks (P : Profile) (limit : Nat) (cont : DecSt → DP) (h : TracksK cont)
    (fuel : Nat) (st : DecSt) :
    Tracks (decodeFileData P limit fuel st cont) st.ctr := by
  induction fuel generalizing st with
  | zero => exact h st
  | succ fuel ih =>
    by_cases hlt : st.n < limit
    · rw [decodeFileData_succ P limit fuel st cont hlt]
      exact recordBody_tracks P ih st
    · rw [decodeFileData_done P limit _ st cont hlt]
      exact h st

theorem parseFileIdMsg_tracks (P : Profile) (cont : DecSt → DP) (h : TracksK cont) (st : DecSt) :
    Tracks (parseFileIdMsg P st cont) st.ctr := by
  unfold parseFileIdMsg
  refine rd_tracks _ _ _ fun hbs _ => ?_
  dsimp only
  split
  · trivial
  · refine parseDefinition_tracks _ _ _ (fun dm st => ?_) _
    split
    · trivial
    · refine rd_tracks _ _ _ fun _ _ => ?_
      refine parseData_tracks _ _ _ _ (fun m st => ?_) _
      repeat' split
      all_goals first | trivial | (rename_i st3 heq; exact addMsg_ctr heq ▸ h st3)

theorem recordsProg_tracks (P : Profile) (mode : Mode) (st : DecSt) : Tracks (recordsProg P mode st) st.ctr := by
  unfold recordsProg
  refine parseFileIdMsg_tracks _ _ (fun st => ?_) st
  have done : TracksK fun st => .done st := fun st => rfl
  repeat' split
  all_goals first | trivial | exact done _ | exact decodeFileData_tracks _ _ _ done _ _

/-- what both modes share: the trailer is entered with the header's checksum advanced by the data area -/
theorem decodeProg_success_crc {P : Profile} {m : Mode} {g : Globals} {s : SpecSt} (hm : m = .full ∨ m = .crcOnly)
    (hs : (runSpec (decodeProg P m g) s).1.success) :
    ∃ size st' x, HeaderAt g s size st' ∧ size + st'.hdr.dataSize ≤ s.rest.length ∧
      runSpec (decodeProg P m g) s =
        runSpecT (checkCRC x) ((s.adv (size + st'.hdr.dataSize)).framed (s.taken + size + st'.hdr.dataSize)) ∧
      x.crc = update st'.crc ((s.adv size).rest.take st'.hdr.dataSize) := by
  obtain ⟨size, st', x, h, hl, e, hfull, hcopy⟩ := decodeProg_success hm hs
  refine ⟨size, st', x, h, hl, e, ?_⟩
  rcases hm with rfl | rfl
  · exact (Tracks.run_end (recordsProg_tracks P .full _) (hfull rfl)).1
  · exact congrArg DecSt.crc (hcopy rfl)

theorem decodeProg_success_residue (P : Profile) (m : Mode) (hm : m = .full ∨ m = .crcOnly)
    (g : Globals) (s : SpecSt)
    (hs : (runSpec (decodeProg P m g) s).1.success) :
    checksum (s.rest.take (frameLen s.rest)) = 0#16 := by
  obtain ⟨size, st', x, h, _, e, hx⟩ := decodeProg_success_crc hm hs
  rw [e] at hs
  -- frame = header ++ data area ++ 2 bytes
  rw [h.frame, List.take_add, List.take_add, checksum, update_append, update_append, ← h.crc]
  exact hx ▸ (checkCRC_success hs).2.1

theorem full_success_integ_success (P : Profile) (g : Globals) (s : SpecSt)
    (hs : (runSpec (decodeProg P .full g) s).1.success) :
    (runSpec (decodeProg P .crcOnly g) s).1.success := by
  obtain ⟨size, st', x, h, hl, e, hx⟩ := decodeProg_success_crc (.inl rfl) hs
  rw [e] at hs
  obtain ⟨h2, hz, _⟩ := checkCRC_success hs
  rw [hx] at hz
  rw [decodeProg_crcOnly h, if_pos (by rw [s.adv_rest, List.length_drop]; omega), checkCRC_run, if_pos h2]
  dsimp only
  split
  · exact ⟨rfl, rfl⟩
  · rename_i hne
    exact absurd hz hne

end Fit
