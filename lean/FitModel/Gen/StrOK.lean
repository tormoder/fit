-- GENERATED. DO NOT EDIT.
import FitModel.Gen.Strings
import FitProofs.StrCheck
namespace Fit.Gen.Str
open Fit.Str

/-! kernel evaluation of `fastOK`, chunk by chunk; the tables are unfolded first so that `unpack` can
    be replaced by `unpackE` (see FitProofs/StrCheck.lean) -/

theorem chunk0_ok : chunk0.all tableOK = true := by
  delta chunk0 t_ActivityClass t_Autoscroll t_BikeLightBeamAngleMode t_BleDeviceType t_ClimbProEvent t_CoreExerciseName t_RunExerciseName t_Schedule t_SegmentDeleteStatus t_SegmentLapStatus t_SegmentLeaderboardType t_SegmentSelectionType t_SensorType t_SessionTrigger t_SetType t_ShoulderStabilityExerciseName t_StrokeType t_SubSport
  rw [unpack_eq]
  exact all_tableOK_of_fast _ (by decide +kernel)

theorem chunk1_ok : chunk1.all tableOK = true := by
  delta chunk1 t_ActivityLevel t_AutolapTrigger t_CameraOrientationType t_ChopExerciseName t_EventType t_ExdDataUnits t_LeftRightBalance100 t_LegRaiseExerciseName t_MessageIndex t_NoFlyTimeMode t_OlympicLiftExerciseName t_PlyoExerciseName t_PwrZoneCalc t_RadarThreatLevelType t_RiderPositionType t_RowExerciseName t_SplitType t_SportBits0 t_SportBits1 t_SportBits2 t_SportBits3 t_SportBits4 t_SportBits5 t_SportBits6 t_SportEvent t_SquatExerciseName
  rw [unpack_eq]
  exact all_tableOK_of_fast _ (by decide +kernel)

theorem chunk2_ok : chunk2.all tableOK = true := by
  delta chunk2 t_ActivityMode t_AutoSyncFrequency t_BodyLocation t_ExdLayout t_ExerciseCategory t_Language t_MaxMetCategory t_MaxMetHeartRateSource t_MaxMetSpeedSource t_MesgCount t_MesgNum t_WatchfaceMode t_WaterType t_WeatherReport t_WeatherSevereType
  rw [unpack_eq]
  exact all_tableOK_of_fast _ (by decide +kernel)

theorem chunk3_ok : chunk3.all tableOK = true := by
  delta chunk3 t_ActivitySubtype t_DateMode t_DayOfWeek t_DeadliftExerciseName t_ExdDescriptors t_TurnType t_WeatherSeverity t_WeatherStatus t_WktStepTarget t_WorkoutCapabilities t_WorkoutEquipment t_WorkoutHr t_WorkoutPower t_Bool
  rw [unpack_eq]
  exact all_tableOK_of_fast _ (by decide +kernel)

theorem chunk4_ok : chunk4.all tableOK = true := by
  delta chunk4 t_ActivityType t_CardioExerciseName t_DisplayHeart t_DisplayOrientation t_DisplayPower t_DiveAlarmType t_DiveAlert t_FitBaseUnit t_FlyeExerciseName t_HipSwingExerciseName t_HrType t_HrZoneCalc t_HrvStatus t_HyperextensionExerciseName t_PushUpExerciseName
  rw [unpack_eq]
  exact all_tableOK_of_fast _ (by decide +kernel)

theorem chunk5_ok : chunk5.all tableOK = true := by
  delta chunk5 t_AnalogWatchfaceLayout t_BacklightTimeout t_BenchPressExerciseName t_ExdDisplayType t_ExdQualifiers t_LeftRightBalance t_LegCurlExerciseName t_Manufacturer
  rw [unpack_eq]
  exact all_tableOK_of_fast _ (by decide +kernel)

theorem chunk6_ok : chunk6.all tableOK = true := by
  delta chunk6 t_AntChannelId t_BikeLightNetworkConfigType t_CalfRaiseExerciseName t_DiveBacklightMode t_DiveGasMode t_DiveGasStatus t_Event t_Gender t_Goal t_GoalSource t_HipRaiseExerciseName t_ShoulderPressExerciseName t_SleepLevel t_SourceType t_Spo2MeasurementType t_Sport t_TimerTrigger t_TissueModelType t_Tone t_TotalBodyExerciseName t_TricepsExtensionExerciseName
  rw [unpack_eq]
  exact all_tableOK_of_fast _ (by decide +kernel)

theorem chunk7_ok : chunk7.all tableOK = true := by
  delta chunk7 t_AntNetwork t_BacklightMode t_CarryExerciseName t_ConnectivityCapabilities t_FaveroProduct t_FileFlags t_FileType t_FitBaseType t_FitnessEquipmentState t_GarminProduct
  rw [unpack_eq]
  exact all_tableOK_of_fast _ (by decide +kernel)

theorem chunk8_ok : chunk8.all tableOK = true := by
  delta chunk8 t_AntplusDeviceType t_DeviceIndex t_DigitalWatchfaceLayout t_DisplayMeasure t_DisplayPosition t_Intensity t_LanguageBits0 t_LanguageBits1 t_LanguageBits2 t_LanguageBits3 t_LanguageBits4 t_LapTrigger t_LateralRaiseExerciseName t_PowerPhaseType t_PullUpExerciseName t_ShrugExerciseName t_Side t_SitUpExerciseName t_SupportedExdScreenLayouts t_SwimStroke t_Switch t_TapSensitivity t_TimeIntoDay t_TimeMode t_TimeZone
  rw [unpack_eq]
  exact all_tableOK_of_fast _ (by decide +kernel)

theorem chunk9_ok : chunk9.all tableOK = true := by
  delta chunk9 t_AttitudeStage t_BatteryStatus t_CameraEventType t_CrunchExerciseName t_UserLocalId t_WarmUpExerciseName t_Weight t_WktStepDuration
  rw [unpack_eq]
  exact all_tableOK_of_fast _ (by decide +kernel)

theorem chunk10_ok : chunk10.all tableOK = true := by
  delta chunk10 t_AttitudeValidity t_CoursePoint t_GasConsumptionRateType t_GoalRecurrence t_HipStabilityExerciseName t_PlankExerciseName
  rw [unpack_eq]
  exact all_tableOK_of_fast _ (by decide +kernel)

theorem chunk11_ok : chunk11.all tableOK = true := by
  delta chunk11 t_AutoActivityDetect t_BpStatus t_CcrSetpointSwitchMode t_Checksum t_CommTimeoutType t_CourseCapabilities t_CurlExerciseName t_LengthType t_LocalDeviceType t_LocaltimeIntoDay t_LungeExerciseName
  rw [unpack_eq]
  exact all_tableOK_of_fast _ (by decide +kernel)

theorem tables_ok : tables.all tableOK = true := by
  simp only [tables, List.all_append, Bool.and_eq_true]
  exact ⟨⟨⟨⟨⟨⟨⟨⟨⟨⟨⟨chunk0_ok, chunk1_ok⟩, chunk2_ok⟩, chunk3_ok⟩, chunk4_ok⟩, chunk5_ok⟩, chunk6_ok⟩, chunk7_ok⟩, chunk8_ok⟩, chunk9_ok⟩, chunk10_ok⟩, chunk11_ok⟩

end Fit.Gen.Str
