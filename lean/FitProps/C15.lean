import FitModel.WF
import FitProofs.TypedEncode
import FitProps.C01
import FitModel.Gen.Profile
/-!
  C15 — profile tables, message structs and all-invalid constructors agree everywhere.

  `ProfileWF` (FitModel/WF.lean) is a decidable predicate over the tables; `Gen.profile` is
  regenerated from /repo on every run by reflection over the live `_fields`, `knownMsgNums`,
  `msgsTypes`, `newMesgFuncs` and the container structs, so `gen_wf` is re-checked by the kernel
  against what the code says now.
-/
namespace Fit.Props.C15
open Fit

/-- the regenerated profile is well formed (evaluated by the kernel in FitProps/GenWF.lean) -/
theorem gen_wf : ProfileWF Gen.profile = true := C01.gen_wf

/-- every entry of every message passes `fieldWF`; `entry_slot` and `entry_invalid` say what that means -/
theorem entry_facts (P : Profile) (h : ProfileWF P = true) (m : PMsg) (hm : m ∈ P.msgs)
    (f : PField) (hf : f ∈ m.fields) :
    fieldWF m f = true :=
  ((ProfileWF_facts h).msg m hm).field f hf

/-- known ⇒ struct type, constructor and lookup row exist -/
theorem known_has_tables (P : Profile) (h : ProfileWF P = true) (m : PMsg) (hm : m ∈ P.msgs)
    (hk : m.known = true) : m.inFields = true ∧ m.hasType = true ∧ m.hasCtor = true :=
  ((ProfileWF_facts h).msg m hm).known hk

/-- the entry designates an existing struct field of exactly the Go type the entry's base
    type, array flag and time/coordinate kind call for -/
theorem entry_slot (m : PMsg) (f : PField) (h : fieldWF m f = true) :
    ∃ k, m.layout[f.sindex]? = some k ∧ slotOfType f.tcode = some k :=
  (fieldWF_facts h).slot

/-- the constructor initialises it to that type's invalid value -/
theorem entry_invalid (m : PMsg) (f : PField) (h : fieldWF m f = true) :
    ∃ v, m.invalid[f.sindex]? = some v ∧ invalidOfType f.tcode = some v :=
  fieldWF_invalid m f h

/-- every message type held by a file container is known -/
theorem containers_known (P : Profile) (h : ProfileWF P = true) (c : Container) (hc : c ∈ P.containers)
    (s : CSlot) (hs : s ∈ c.slots) : P.known s.msg = true :=
  (ProfileWF_facts h).container c hc s hs

/-- the table sizes the decoder indexes are consistent: every known number is inside all three -/
theorem known_in_range : Gen.knownNums.all (fun n => decide (n < Gen.lenFields) && decide (n < Gen.lenTypes) &&
    decide (n < Gen.lenCtors)) = true := by decide +kernel

/-- the constants the hand-written model uses are the repository's -/
theorem consts_agree : mnFileId = Gen.mnFileId ∧ mnFileCreator = Gen.mnFileCreator ∧
    mnTimestampCorrelation = Gen.mnTimestampCorrelation ∧ mnFieldDescription = Gen.mnFieldDescription ∧
    mnDeveloperDataId = Gen.mnDeveloperDataId ∧ mnSession = Gen.mnSession ∧ mnLap = Gen.mnLap ∧
    mnRecord = Gen.mnRecord ∧ mnEvent = Gen.mnEvent ∧ mnSegmentLap = Gen.mnSegmentLap := by decide

/-- non-vacuity: record.distance (message 20, field 5) is a uint32 scalar whose invalid is 0xFFFFFFFF -/
example : ∃ f ∈ Gen.m20.fields, f.num = 5 ∧ slotOfType f.tcode = some (.sc (.u 32)) ∧
    invalidOfType f.tcode = some (.u 0xFFFFFFFF) := by decide

/-! ### "no profile-driven reflection access can fail" -/

/-- **decoder side**: on any profile with `ProfileWF` no decode entry point reaches a failing
    reflection access (`SetUint` on the wrong kind, `Field(i)` out of range, a nil constructor, …) —
    whatever the input, options, package state and read schedule -/
theorem decoder_accesses_never_fail (P : Profile) (h : ProfileWF P = true) (o : Opts) (m : Mode) (g : Globals) (r : Reader) :
    (decode P o m g r).1.panic = false :=
  C01.decode_never_panics P h o m g r

/-- **encoder side**: on any profile with `ProfileWF`, `Encode` of a File whose messages are well
    typed (what Go's type system guarantees of every File a caller can build, and what `Decode`
    returns: `C07.decoded_file_typed`) reaches no failing type assertion, missing lookup entry or
    out-of-range struct field -/
theorem encoder_accesses_never_fail (P : Profile) (h : ProfileWF P = true) (arch : Endian) (f : FileSt)
    (hf : FileTyped P f) (hc : f.cidx.isSome = true) : encode P arch f ≠ .panic :=
  encode_no_panic P h arch f hf hc

end Fit.Props.C15
