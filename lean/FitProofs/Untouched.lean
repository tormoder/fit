import FitProofs.ItemSpec
import FitProofs.ListLemmas
import FitProofs.FieldValue
/-
  C02: what the field loop leaves alone. One field either changes nothing of the message under
  construction or stores one value at the struct position of its profile entry; so every struct
  field no listed field number designates keeps what the constructor put there.
-/
namespace Fit

/-- the invariant rule of the field loop: what every single store preserves holds at the end -/
theorem stepFields_invariant (Q : Msg → Prop) {P : Profile} {dm : DefMsg} {known : Bool} {fds : List FieldDef} {raws : List Bytes}
    {msg : Msg} {st : DecSt} {m' : Option Msg} {st' : DecSt}
    (h : stepFields P dm known fds raws (some msg) st = .ok m' st')
    (hQ : ∀ fd ∈ fds, ∀ pf v x, P.getField dm.global fd.num = some pf → Q x →
      Q { x with vals := setAt x.vals pf.sindex v }) (h0 : Q msg) :
    ∃ msg', m' = some msg' ∧ Q msg' := by
  induction fds generalizing raws msg st with
  | nil => simp only [stepFields] at h; cases h; exact ⟨msg, rfl, h0⟩
  | cons fd fds ih =>
    cases raws with
    | nil => simp only [stepFields] at h; cases h; exact ⟨msg, rfl, h0⟩
    | cons raw raws =>
      rw [stepFields_cons] at h
      split at h
      · cases h
      · cases h
      · rename_i m1 ts1 hap
        have hQ' := fun f hf => hQ f (List.mem_cons_of_mem _ hf)
        rcases applyField_inv hap with e | ⟨pf, _, _, v, hpf, _, _, _, e⟩
        · subst e
          exact ih h hQ' h0
        · subst e
          exact ih h hQ' (hQ fd (List.mem_cons_self ..) pf v msg hpf h0)

theorem stepFields_untouched {P : Profile} {dm : DefMsg} {known : Bool} {fds : List FieldDef} {raws : List Bytes}
    {msg : Msg} {st : DecSt} {m' : Option Msg} {st' : DecSt}
    (h : stepFields P dm known fds raws (some msg) st = .ok m' st') (i : Nat)
    (hi : ∀ fd ∈ fds, ∀ pf, P.getField dm.global fd.num = some pf → pf.sindex ≠ i) :
    ∃ msg', m' = some msg' ∧ msg'.num = msg.num ∧ msg'.vals[i]? = msg.vals[i]? :=
  stepFields_invariant (fun x => x.num = msg.num ∧ x.vals[i]? = msg.vals[i]?) h
    (fun fd hfd pf _ _ hpf hx => ⟨hx.1, (getElem?_setAt_ne _ _ _ _ (hi fd hfd pf hpf)).trans hx.2⟩) ⟨rfl, rfl⟩

theorem stepFields_num {P : Profile} {dm : DefMsg} {known : Bool} {fds : List FieldDef} {raws : List Bytes}
    {msg : Msg} {st : DecSt} {m2 : Option Msg} {st2 : DecSt}
    (h : stepFields P dm known fds raws (some msg) st = .ok m2 st2) :
    ∃ msg2, m2 = some msg2 ∧ msg2.num = msg.num :=
  stepFields_invariant (fun x => x.num = msg.num) h (fun _ _ _ _ _ _ hx => hx) rfl

end Fit
