import FitModel.Shared
import FitModel.Gen.Profile
/-!
  C09 — concurrent use on independent inputs is race-free and equals sequential use.

  Partial, stated plainly: the theorems are about the model's shared-access semantics (calls of
  local actions, alone or interleaved, leave shared memory as it was and do not depend on it; an
  interleaved run is not compared with a sequential one).  The Go
  memory model, the scheduler and the race detector's coverage cannot be expressed in Lean; the
  claim is "proof over the shared-state model, tied to the code by the static write-set fact
  (`gen_written_globals`) and by race-detector runs of the real entry points".
-/
namespace Fit.Props.C09
open Fit.Shared

theorem updateAt_eq_set (cs : List CallSt) (i : Nat) (c : CallSt) : updateAt cs i c = cs.set i c := by
  induction cs generalizing i with
  | nil => rfl
  | cons x xs ih => cases i <;> simp [updateAt, ih]

/-- a step of a call made only of local actions neither reads nor writes shared memory -/
theorem local_step_pure (m m2 : Mem) (c : CallSt) (h : c.todo.all Act.isLocal = true) :
    (stepCall m c).1 = m ∧ (stepCall m c).2 = (stepCall m2 c).2 ∧ (stepCall m c).2.todo.all Act.isLocal = true := by
  unfold stepCall
  cases hc : c.todo with
  | nil => simp [hc] at h ⊢
  | cons a rest =>
    rw [hc] at h
    simp only [List.all_cons, Bool.and_eq_true] at h
    cases a with
    | loc o => exact ⟨rfl, rfl, h.2⟩
    | rd k => simp [Act.isLocal] at h
    | wr k d => simp [Act.isLocal] at h

theorem runAlone_local (m : Mem) (c : CallSt) (fuel : Nat) (h : c.todo.all Act.isLocal = true) :
    (runAlone m c fuel).1 = m ∧ ∀ m2, (runAlone m c fuel).2 = (runAlone m2 c fuel).2 := by
  induction fuel generalizing m c with
  | zero => exact ⟨rfl, fun _ => rfl⟩
  | succ n ih =>
    simp only [runAlone]
    obtain ⟨h1, -, h3⟩ := local_step_pure m m c h
    rw [h1]
    obtain ⟨i1, i2⟩ := ih m (stepCall m c).2 h3
    refine ⟨i1, fun m2 => ?_⟩
    have e := (local_step_pure m m2 c h).2.1
    have e2 := (local_step_pure m2 m2 c h).1
    rw [e2, ← e]
    exact i2 m2

/-- **Any interleaving of calls that do not touch the accumulators leaves shared memory
    unchanged**, and the calls remain such calls. -/
theorem interleaving_keeps_memory (m : Mem) (cs : List CallSt) (sched : List Nat)
    (h : ∀ c ∈ cs, c.todo.all Act.isLocal = true) :
    (run m cs sched).1 = m ∧ ∀ c ∈ (run m cs sched).2, c.todo.all Act.isLocal = true := by
  induction sched generalizing cs with
  | nil => exact ⟨rfl, h⟩
  | cons i sched ih =>
    simp only [run]
    cases hci : cs[i]? with
    | none => exact ih cs h
    | some c =>
      simp only
      have hc : c ∈ cs := List.mem_of_getElem? hci
      obtain ⟨h1, _, h3⟩ := local_step_pure m m c (h c hc)
      rw [h1]
      apply ih
      intro c' hc'
      rcases List.mem_or_eq_of_mem_set (updateAt_eq_set cs i _ ▸ hc') with h' | h'
      · exact h c' h'
      · rw [h']; exact h3

/-- D12 (known finding): two calls that both accumulate into the same package-level accumulator
    can lose an update — the schedule read₁ read₂ write₁ write₂ ends with a value that neither
    sequential order produces. -/
theorem race_counterexample :
    let c1 : CallSt := { todo := [.rd 0, .wr 0 5] }
    let c2 : CallSt := { todo := [.rd 0, .wr 0 7] }
    (run [0] [c1, c2] [0, 1, 0, 1]).1 = [7] ∧
    (run [0] [c1, c2] [0, 0, 1, 1]).1 = [12] ∧
    (run [0] [c1, c2] [1, 1, 0, 0]).1 = [12] := by decide

/-- the accumulators are the only package-level variables written on the decode/encode paths -/
theorem gen_written_globals :
    Fit.Gen.writtenGlobals = ["accumuAccumulatedPower", "accumuDistance", "accumuTotalCycles"] := by decide

end Fit.Props.C09
