import FitModel.WF
import FitModel.Gen.Profile
/-!
  `ProfileWF` evaluated on the regenerated profile: half a minute of kernel time, in a module below
  everything else so that it runs beside the proofs that use it and not after those C01 rests on.
-/
namespace Fit.Props.C01
open Fit

theorem gen_wf : ProfileWF Gen.profile = true := by decide +kernel

end Fit.Props.C01
