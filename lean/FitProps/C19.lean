import FitModel.GenCore
/-!
  C19 — fitgen yields valid, deterministic code for every product-profile selection.

  Partial: only the table-content clause is a theorem (about the model `GenCore.gen` of the row
  filter → struct index → lookup entry pipeline).  Exit status, compilability and run-to-run
  determinism are observations of the harness on the real command (the model is a pure function
  and cannot exhibit map-order nondeterminism; "compiles" is a fact about the Go type checker).
-/
namespace Fit.Props.C19
open Fit.GenCore

theorem genFrom_entry_of_enabled_row (seen rows : List Row) (e : Entry) (h : e ∈ genFrom seen rows) :
    ∃ r ∈ rows, r.enabled = true ∧ e.msg = r.msg ∧ e.num = r.num ∧ e.tcode = r.tcode := by
  induction rows generalizing seen with
  | nil => simp [genFrom] at h
  | cons r rest ih =>
    simp only [genFrom] at h
    have tail : ∀ seen', e ∈ genFrom seen' rest →
        ∃ r' ∈ r :: rest, r'.enabled = true ∧ e.msg = r'.msg ∧ e.num = r'.num ∧ e.tcode = r'.tcode := fun _ h =>
      let ⟨r', hr', hx⟩ := ih _ h
      ⟨r', List.mem_cons_of_mem _ hr', hx⟩
    split at h
    · rename_i hen
      rcases List.mem_cons.1 h with h | h
      · exact ⟨r, List.mem_cons_self .., hen, by rw [h], by rw [h], by rw [h]⟩
      · exact tail _ h
    · exact tail _ h

/-- nothing is generated for disabled rows: every entry comes from an enabled row -/
theorem gen_disabled_absent (rows : List Row) (e : Entry) (h : e ∈ gen rows) :
    ∃ r ∈ rows, r.enabled = true ∧ e.msg = r.msg ∧ e.num = r.num ∧ e.tcode = r.tcode :=
  genFrom_entry_of_enabled_row [] rows e h

theorem genFrom_length (seen rows : List Row) :
    (genFrom seen rows).length = (rows.filter (·.enabled)).length := by
  induction rows generalizing seen with
  | nil => rfl
  | cons r rest ih =>
    simp only [genFrom, List.filter_cons]
    split
    · simp [ih]
    · exact ih _

/-- the number of entries is the number of enabled rows: exactly one entry per enabled row -/
theorem gen_one_per_enabled_row (rows : List Row) :
    (gen rows).length = (rows.filter (·.enabled)).length := genFrom_length [] rows

theorem genFrom_has_entry (seen pre : List Row) (r : Row) (post : List Row) (hen : r.enabled = true) :
    ⟨r.msg, countMsg r.msg (seen ++ pre), r.num, r.tcode⟩ ∈ genFrom seen (pre ++ r :: post) := by
  induction pre generalizing seen with
  | nil => simp [genFrom, hen]
  | cons p ps ih =>
    simp only [List.cons_append, genFrom]
    have := ih (seen ++ [p])
    rw [List.append_assoc] at this
    split
    · exact List.mem_cons_of_mem _ this
    · exact this

/-- every enabled row has its entry, carrying the row's field number and type code, with struct
    index = number of enabled rows of the same message before it -/
theorem gen_entries_exact (pre : List Row) (r : Row) (post : List Row) (hen : r.enabled = true) :
    ⟨r.msg, countMsg r.msg pre, r.num, r.tcode⟩ ∈ gen (pre ++ r :: post) := by
  have := genFrom_has_entry [] pre r post hen
  simpa [gen] using this

theorem genFrom_sindex_dense (m : String) (seen rows : List Row) :
    ((genFrom seen rows).filter (fun e => e.msg == m)).map (·.sindex) =
      (List.range (countMsg m rows)).map (fun k => countMsg m seen + k) := by
  induction rows generalizing seen with
  | nil => simp [genFrom, countMsg]
  | cons r rest ih =>
    simp only [genFrom]
    have hcm : ∀ s : List Row, countMsg m (s ++ [r]) = countMsg m s + (if r.enabled && r.msg == m then 1 else 0) := by
      intro s; simp only [countMsg, List.filter_append, List.length_append, List.filter_cons, List.filter_nil]
      split <;> simp
    have hc : countMsg m (r :: rest) = (if r.enabled && r.msg == m then 1 else 0) + countMsg m rest := by
      simp only [countMsg, List.filter_cons]
      split <;> simp <;> omega
    by_cases hen : r.enabled = true
    · simp only [hen, ↓reduceIte, List.filter_cons]
      by_cases hm : (r.msg == m) = true
      · simp only [hm, ↓reduceIte, List.map_cons]
        rw [ih, hcm, hc]
        simp only [hen, hm, Bool.and_self, ↓reduceIte]
        rw [Nat.add_comm 1, List.range_succ_eq_map, List.map_cons, List.map_map]
        have e1 : countMsg r.msg seen = countMsg m seen := by
          have : r.msg = m := by simpa using hm
          rw [this]
        simp only [e1, Nat.add_zero, List.cons.injEq, true_and]
        apply List.map_congr_left
        intro k _
        simp; omega
      · have hm' : (r.msg == m) = false := by simpa using hm
        simp only [hm', Bool.false_eq_true, ↓reduceIte]
        rw [ih, hcm, hc]
        simp [hen, hm']
    · have hen' : r.enabled = false := by simpa using hen
      simp only [hen', Bool.false_eq_true, ↓reduceIte]
      rw [ih, hcm, hc]
      simp [hen']

/-- struct indices of one message are dense and in row order: 0, 1, 2, … -/
theorem gen_sindex_dense (m : String) (rows : List Row) :
    ((gen rows).filter (fun e => e.msg == m)).map (·.sindex) = List.range (countMsg m rows) := by
  have := genFrom_sindex_dense m [] rows
  simpa [gen, countMsg] using this

example : gen [⟨"record", 253, true, 70⟩, ⟨"record", 0, false, 67⟩, ⟨"record", 1, true, 68⟩, ⟨"lap", 254, true, 4⟩] =
    [⟨"record", 0, 253, 70⟩, ⟨"record", 1, 1, 68⟩, ⟨"lap", 0, 254, 4⟩] := by decide

end Fit.Props.C19
