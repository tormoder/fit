import FitModel.Basic
/-
  List facts core does not have under a usable name: the model's `setAt`, `mapM` into `Option`,
  `All2` (two lists related elementwise; core has no `Forall₂`), lengths of flattened blocks.
-/
namespace Fit

/-- The model's `setAt` is core's `List.set`; facts about it come from there. -/
theorem setAt_eq_set {α} : ∀ (l : List α) (i : Nat) (v : α), setAt l i v = l.set i v
  | [], _, _ => rfl
  | _ :: _, 0, _ => rfl
  | x :: xs, i + 1, v => congrArg (x :: ·) (setAt_eq_set xs i v)

theorem length_setAt {α} (l : List α) (i : Nat) (v : α) : (setAt l i v).length = l.length := by
  rw [setAt_eq_set, List.length_set]

theorem getElem?_setAt_self {α} (l : List α) (i : Nat) (v : α) (h : i < l.length) : (setAt l i v)[i]? = some v := by
  rw [setAt_eq_set, List.getElem?_set_self h]

theorem getElem?_setAt_ne {α} (l : List α) (i j : Nat) (v : α) (h : i ≠ j) : (setAt l i v)[j]? = l[j]? := by
  rw [setAt_eq_set, List.getElem?_set_ne h]

theorem getD_setAt_self {α} (l : List α) (i : Nat) (v d : α) (h : i < l.length) : (setAt l i v).getD i d = v := by
  rw [List.getD_eq_getElem?_getD, getElem?_setAt_self l i v h, Option.getD_some]

theorem getD_setAt_ne {α} (l : List α) (i j : Nat) (v d : α) (h : i ≠ j) : (setAt l i v).getD j d = l.getD j d := by
  rw [List.getD_eq_getElem?_getD, getElem?_setAt_ne l i j v h, List.getD_eq_getElem?_getD]

theorem getD_setAt {α} (l : List α) (i j : Nat) (v d : α) :
    (setAt l i v).getD j d = if i = j ∧ j < l.length then v else l.getD j d := by
  split
  · rename_i h; rw [← h.1, getD_setAt_self l i v d (h.1 ▸ h.2)]
  · rename_i h
    by_cases e : i = j
    · subst e
      have hi : l.length ≤ i := by omega
      rw [List.getD_eq_getElem?_getD, List.getD_eq_getElem?_getD, List.getElem?_eq_none hi,
        List.getElem?_eq_none (by rw [length_setAt]; exact hi)]
    · exact getD_setAt_ne l i j v d e

theorem setAt_of_getElem? {α} (l : List α) (i : Nat) (v : α) (h : l[i]? = some v) : setAt l i v = l := by
  obtain ⟨hi, rfl⟩ := List.getElem?_eq_some_iff.mp h
  rw [setAt_eq_set, List.set_getElem_self]

theorem setAt_append_cons {α} (a : List α) (x v : α) (b : List α) : setAt (a ++ x :: b) a.length v = a ++ v :: b := by
  rw [setAt_eq_set, List.set_append_right _ _ (Nat.le_refl _)]
  simp

theorem getD_of_getElem? {α} (l : List α) (i : Nat) (v d : α) (h : l[i]? = some v) : l.getD i d = v := by
  simp [List.getD_eq_getElem?_getD, h]

theorem mapM_eq_some_iff {α β} (f : α → Option β) (l : List α) (r : List β) :
    l.mapM f = some r ↔ l.map f = r.map some := by
  induction l generalizing r with
  | nil => cases r <;> simp
  | cons a as ih =>
    rw [List.mapM_cons]
    cases ha : f a with
    | none => cases r <;> simp [ha]
    | some b =>
      cases hr : as.mapM f with
      | none =>
        cases r with
        | nil => simp
        | cons y ys =>
          have := ih ys
          simp [hr] at this
          simp [ha, this]
      | some bs =>
        cases r with
        | nil => simp
        | cons y ys => simp [ha, ← ih ys, hr]

theorem mapM_some_preimage {α β} {f : α → Option β} {l : List α} {r : List β} (h : l.mapM f = some r)
    {y : β} (hy : y ∈ r) : ∃ x ∈ l, f x = some y := by
  rw [mapM_eq_some_iff] at h
  have : some y ∈ l.map f := by rw [h]; exact List.mem_map_of_mem hy
  simpa using this

theorem mapM_some_image {α β} {f : α → Option β} {l : List α} {r : List β} (h : l.mapM f = some r)
    {x : α} (hx : x ∈ l) : ∃ y ∈ r, f x = some y := by
  rw [mapM_eq_some_iff] at h
  have : f x ∈ r.map some := by rw [← h]; exact List.mem_map_of_mem hx
  obtain ⟨y, hy, e⟩ := List.mem_map.mp this
  exact ⟨y, hy, e.symm⟩

theorem mapM_eq_some_map {α β} {f : α → Option β} {g : α → β} {l : List α} (h : ∀ x ∈ l, f x = some (g x)) :
    l.mapM f = some (l.map g) := by
  rw [mapM_eq_some_iff, List.map_map]
  exact List.map_congr_left h

theorem filterMap_some_comp {α β} {f : α → β} (l : List α) : l.filterMap (fun x => some (f x)) = l.map f :=
  congrFun List.filterMap_eq_map l

inductive All2 {α β} (R : α → β → Prop) : List α → List β → Prop
  | nil : All2 R [] []
  | cons {a b as bs} : R a b → All2 R as bs → All2 R (a :: as) (b :: bs)

theorem All2.length_eq {α β} {R : α → β → Prop} {as : List α} {bs : List β} (h : All2 R as bs) : as.length = bs.length := by
  induction h with
  | nil => rfl
  | cons _ _ ih => rw [List.length_cons, List.length_cons, ih]

theorem All2.map_right {α β γ} {R : α → β → Prop} {S : α → γ → Prop} {as : List α} {bs : List β} (f : β → γ)
    (h : All2 R as bs) (hi : ∀ a b, a ∈ as → b ∈ bs → R a b → S a (f b)) : All2 S as (bs.map f) := by
  induction h with
  | nil => exact .nil
  | cons hr _ ih =>
    exact .cons (hi _ _ (List.mem_cons_self ..) (List.mem_cons_self ..) hr)
      (ih fun a b ha hb => hi a b (List.mem_cons_of_mem _ ha) (List.mem_cons_of_mem _ hb))

theorem All2.imp {α β} {R S : α → β → Prop} {as : List α} {bs : List β} (h : All2 R as bs)
    (hi : ∀ a b, a ∈ as → b ∈ bs → R a b → S a b) : All2 S as bs := by
  have := h.map_right id hi
  rwa [List.map_id] at this

theorem forall_of_not_bnot_all {α} {l : List α} {p : α → Bool} (h : ¬ (!(l.all p)) = true) : ∀ x ∈ l, p x = true := by
  simp only [Bool.not_eq_true', Bool.not_eq_false] at h
  rw [List.all_eq_true] at h
  exact h

theorem mapM_isSome {α β} {f : α → Option β} {l : List α} (h : ∀ x ∈ l, (f x).isSome = true) : (l.mapM f).isSome = true := by
  induction l with
  | nil => rfl
  | cons x xs ih =>
    obtain ⟨y, hy⟩ := Option.isSome_iff_exists.mp (h x (List.mem_cons_self ..))
    obtain ⟨ys, hys⟩ := Option.isSome_iff_exists.mp (ih fun z hz => h z (List.mem_cons_of_mem _ hz))
    simp [List.mapM_cons, hy, hys]

theorem getD_append_cons {α} (a : List α) (x d : α) (b : List α) : (a ++ x :: b).getD a.length d = x := by
  induction a with
  | nil => rfl
  | cons y ys ih => simp

theorem zip_map_zip {α β γ} (l : List α) (r : List β) (g : α × β → γ) :
    l.zip ((l.zip r).map g) = (l.zip r).map (fun z => (z.1, g z)) := by
  induction l generalizing r with
  | nil => simp
  | cons a l ih =>
    cases r with
    | nil => simp
    | cons b r => simp [ih]

theorem flatten_length_of {l : List Bytes} {w : Nat} (h : ∀ b ∈ l, b.length = w) : l.flatten.length = l.length * w := by
  induction l with
  | nil => simp
  | cons b l ih =>
    rw [List.flatten_cons, List.length_append, h b (List.mem_cons_self ..), ih fun c hc => h c (List.mem_cons_of_mem _ hc),
      List.length_cons, Nat.succ_mul, Nat.add_comm]

theorem flatten_replicate_length (k : Nat) (x : Bytes) : (List.replicate k x).flatten.length = k * x.length := by
  rw [flatten_length_of fun b hb => by rw [List.eq_of_mem_replicate hb], List.length_replicate]

theorem padded_nonempty {α} (ys : List α) (L : Nat) (a : α) (hL : 1 ≤ L) :
    (ys ++ List.replicate (L - ys.length) a).isEmpty = false := by
  cases ys with
  | nil =>
    cases L with
    | zero => omega
    | succ n => simp [List.replicate_succ]
  | cons y t => rfl

theorem take_drop_append_min {α} (p d : List α) (k : Nat) :
    p.take k = (p ++ d).take (min k p.length) ∧ p.drop k ++ d = (p ++ d).drop (min k p.length) := by
  by_cases h : k ≤ p.length
  · rw [Nat.min_eq_left h, List.take_append_of_le_length h, List.drop_append_of_le_length h]
    exact ⟨rfl, rfl⟩
  · have h' : p.length ≤ k := by omega
    rw [Nat.min_eq_right h', List.take_of_length_le h', List.drop_eq_nil_of_le h', List.take_left' rfl,
      List.drop_left' rfl]
    exact ⟨rfl, rfl⟩

theorem getD_inj_of_first {α} [BEq α] [LawfulBEq α] (l : List α) (d : α) (p : α → Bool) (hd : p d = false)
    (hfirst : ∀ i, i < l.length → p (l.getD i d) = true → l.idxOf (l.getD i d) = i) {s t : Nat}
    (hs : p (l.getD s d) = true) (e : l.getD s d = l.getD t d) : s = t := by
  have inside : ∀ i, p (l.getD i d) = true → i < l.length := fun i hi =>
    Decidable.byContradiction fun hge => by
      rw [List.getD_eq_getElem?_getD, List.getElem?_eq_none (by omega), Option.getD_none, hd] at hi
      cases hi
  have ht : p (l.getD t d) = true := e ▸ hs
  calc s = l.idxOf (l.getD s d) := (hfirst s (inside s hs) hs).symm
    _ = l.idxOf (l.getD t d) := by rw [e]
    _ = t := hfirst t (inside t ht) ht

theorem All2.of_singleton {α β} {R : α → β → Prop} {as : List α} {b : β} (h : All2 R as [b]) : ∃ a, as = [a] ∧ R a b := by
  cases h with
  | cons hr hn => cases hn; exact ⟨_, rfl, hr⟩

end Fit
