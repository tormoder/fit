import FitProofs.Pad
import FitProofs.FieldCodec
/-
  C06: an array field of an integer base type through `writeField` and `applyField`: one theorem
  for unsigned, signed and byte elements, full-length, short and nil arrays.
-/
namespace Fit

/-- an array value with the signedness of base type `b`, every element in its range -/
def ArrFits (b : Nat) : Val → Prop
  | .us xs => Base.signed b = false ∧ ∀ x ∈ xs.getD [], x < 256 ^ Base.size b
  | .is zs => Base.signed b = true ∧
      ∀ z ∈ zs.getD [], -(2 ^ (8 * Base.size b - 1) : Int) ≤ z ∧ z < (2 ^ (8 * Base.size b - 1) : Int)
  | _ => False

/-- reading a two's-complement element back through `SetInt` -/
theorem readInt_wire (w : Nat) (hw : w = 1 ∨ w = 2 ∨ w = 4) (z : Int)
    (hlo : -(2 ^ (8 * w - 1) : Int) ≤ z) (hhi : z < (2 ^ (8 * w - 1) : Int)) :
    toSigned (8 * w) (toUnsigned 64 ((toUnsigned (8 * w) z % 256 ^ w : Nat) : Int)) = z := by
  have h1 := toUnsigned_lt (8 * w) z
  rw [pow256, Nat.mod_eq_of_lt h1, toUnsigned_natCast, Nat.mod_eq_of_lt (Nat.lt_of_lt_of_le h1
    (Nat.pow_le_pow_right (by decide) (by omega)))]
  exact toSigned_toUnsigned_le _ _ (by omega) (Nat.le_refl _) z hlo hhi

theorem readInt_nat (w : Nat) (hw : w = 1 ∨ w = 2 ∨ w = 4) (n : Nat) (hn : n < 2 ^ (8 * w - 1)) :
    toSigned (8 * w) (toUnsigned 64 ((n % 256 ^ w : Nat) : Int)) = n := by
  have h1 : n < 2 ^ (8 * w) := Nat.lt_of_lt_of_le hn (Nat.pow_le_pow_right (by decide) (by omega))
  rw [pow256, Nat.mod_eq_of_lt h1, toUnsigned_natCast, Nat.mod_eq_of_lt (Nat.lt_of_lt_of_le h1
    (Nat.pow_le_pow_right (by decide) (by omega)))]
  unfold toSigned
  simp only [Nat.mod_eq_of_lt h1, hn, ↓reduceIte]

theorem readBack_padVal (pf : PField) (v : Val) (harr : tcArray pf.tcode = true)
    (hw : Base.size (tcBase pf.tcode) = 1 ∨ Base.size (tcBase pf.tcode) = 2 ∨ Base.size (tcBase pf.tcode) = 4)
    (hinv : Base.invalidNat (tcBase pf.tcode) <
      2 ^ (8 * Base.size (tcBase pf.tcode) - (if Base.signed (tcBase pf.tcode) then 1 else 0)))
    (hv : ArrFits (tcBase pf.tcode) v) :
    readBack (tcBase pf.tcode) (v.elems.map (Val.wire (8 * Base.size (tcBase pf.tcode))) ++
      List.replicate (pf.length - v.elems.length) (Base.invalidNat (tcBase pf.tcode))) = padVal pf v := by
  unfold readBack padVal
  rw [if_pos harr]
  cases v with
  | us xs =>
    obtain ⟨hs, hx⟩ := hv
    have he : (Val.us xs).elems = (xs.getD []).map .u := by cases xs <;> rfl
    simp only [hs, Bool.false_eq_true, ↓reduceIte, Nat.sub_zero, ← pow256] at hinv ⊢
    rw [he, List.map_map, List.length_map]
    congr 2
    rw [List.map_append, List.map_replicate, Nat.mod_eq_of_lt hinv, List.map_map]
    congr 1
    exact (List.map_congr_left fun x h => Nat.mod_eq_of_lt (hx x h)).trans (List.map_id _)
  | is zs =>
    obtain ⟨hs, hz⟩ := hv
    have he : (Val.is zs).elems = (zs.getD []).map .i := by cases zs <;> rfl
    simp only [hs, ↓reduceIte] at hinv ⊢
    rw [he, List.map_map, List.length_map]
    congr 2
    rw [List.map_append, List.map_replicate, readInt_nat _ hw _ hinv, List.map_map]
    congr 1
    exact (List.map_congr_left fun z h => readInt_wire _ hw z (hz z h).1 (hz z h).2).trans (List.map_id _)
  | _ => cases hv

/-- **An array field of an integer base type, end to end**: written by `writeField` and read by
    `applyField` with the definition the encoder writes, it comes back padded (`padVal`); nothing else
    is touched. -/
theorem array_roundtrip (P : Profile) (hwf : ProfileWF P = true) (dm : DefMsg) (pf : PField) (v : Val)
    (hgf : P.getField dm.global pf.num = some pf) (hnat : tcKind pf.tcode = .native) (harr : tcArray pf.tcode = true)
    (hns : tcBase pf.tcode ≠ Base.string) (hlen : v.elems.length ≤ pf.length) (hv : ArrFits (tcBase pf.tcode) v)
    (msg : Msg) (ts : TsRef) (part : Bytes)
    (hpart : writeField dm.arch pf (.sl (scOfInt (tcBase pf.tcode))) v = .ok part) :
    applyField P dm true (fdOf pf) part (some msg) ts =
      .ok (some { msg with vals := setAt msg.vals pf.sindex (padVal pf v) }) ts := by
  obtain ⟨pm, hpm, _, facts⟩ := getField_facts hwf hgf
  have hb := tcBase_listed facts
  have hi := listed_int hb hns
  have hslot : slotOfType pf.tcode = some (.sl (scOfInt (tcBase pf.tcode))) := by
    rw [slotOfType_native hnat hi.sc, harr]
    rfl
  have hmerge : ∀ (w k : Nat) (ws : List Nat) (n : Nat), (ws.map (dm.arch.enc w)).flatten ++
      (List.replicate k (dm.arch.enc w n)).flatten = ((ws ++ List.replicate k n).map (dm.arch.enc w)).flatten := by
    intro w k ws n
    rw [List.map_append, List.map_replicate, List.flatten_append]
  rw [writeField_array dm.arch pf _ v harr hns hnat, List.take_of_length_le hlen, scWidth_scOfInt, hmerge] at hpart
  cases hpart
  have hsz : szOf pf = Base.size (tcBase pf.tcode) * pf.length := by rw [(szOf_eq facts).1, if_pos (Or.inl harr)]
  rw [applyField_listed (fd := fdOf pf) hgf hpm (facts.layout.trans hslot), fieldValue_native hnat]
  simp only [fdOf, harr, Bool.not_true, Bool.false_eq_true, ↓reduceIte]
  rw [List.take_of_length_le (by
      rw [flatten_enc_length, hsz, List.length_append, List.length_map, List.length_replicate, Nat.add_sub_cancel' hlen]
      exact Nat.le_refl _),
    parseFitFieldArray_encodings dm.arch ⟨pf.num, szOf pf, tcBase pf.tcode⟩ _ hb hns, readBack_padVal pf v harr hi.width hi.invalid hv]
  rfl

theorem mapM_setUint (w : Nat) (xs : List Nat) :
    (xs.mapM fun x => setUint (.sc (.u w)) x) = some (xs.map fun x => Val.u (x % 2 ^ w)) :=
  mapM_eq_some_map fun _ _ => rfl

theorem filterMap_u (xs : List Nat) :
    (xs.map Val.u).filterMap (fun v => match v with | .u n => some n | _ => none) = xs := by
  rw [List.filterMap_map]
  exact (filterMap_some_comp (f := id) xs).trans (List.map_id xs)

theorem scWidth_u8 (w : Nat) : scWidth (.u (8 * w)) = w := by simp [scWidth]

theorem writeField_unsigned_array (arch : Endian) (pf : PField) (w : Nat) (xs : List Nat)
    (harr : tcArray pf.tcode = true) (hns : tcBase pf.tcode ≠ Base.string) (hnat : tcKind pf.tcode = .native)
    (hlen : xs.length = pf.length) (hl256 : pf.length < 256) :
    writeField arch pf (.sl (.u (8 * w))) (.us (some xs)) = .ok (xs.map (arch.enc w)).flatten := by
  have hl : (Val.us (some xs)).elems.length = pf.length := by simp [Val.elems, hlen]
  rw [writeField_array arch pf _ _ harr hns hnat, List.take_of_length_le (Nat.le_of_eq hl), hl, Nat.sub_self, scWidth_u8]
  simp [Val.elems, Val.wire, Function.comp_def]

/-- a short (or nil) array is written exactly as the array padded to the profile length -/
theorem writeField_pad (arch : Endian) (pf : PField) (w : Nat) (xs : Option (List Nat))
    (harr : tcArray pf.tcode = true) (hns : tcBase pf.tcode ≠ Base.string) (hnat : tcKind pf.tcode = .native)
    (hsize : Base.size (tcBase pf.tcode) = w) (hlen : (xs.getD []).length ≤ pf.length) :
    writeField arch pf (.sl (.u (8 * w))) (.us xs) =
      writeField arch pf (.sl (.u (8 * w))) (.us (some (xs.getD [] ++
        List.replicate (pf.length - (xs.getD []).length) (Base.invalidNat (tcBase pf.tcode))))) := by
  have he : (Val.us xs).elems = (xs.getD []).map .u := by cases xs <;> rfl
  rw [writeField_array arch pf _ _ harr hns hnat, List.take_of_length_le (by rw [he, List.length_map]; exact hlen),
    writeField_array arch pf _ _ harr hns hnat, List.take_of_length_le (by simp [Val.elems]; omega), he, hsize, scWidth_u8]
  simp only [Val.elems, List.length_map, List.length_append, List.length_replicate, Nat.add_sub_cancel' hlen, Nat.sub_self,
    List.replicate_zero, List.flatten_nil, List.append_nil, List.map_append, List.map_map, List.flatten_append,
    List.map_replicate, Function.comp_def, Val.wire]

end Fit
