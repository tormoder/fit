import FitModel.Encode
import FitModel.Items
import FitModel.Gen.Profile
import FitProofs.TypedEncode
import FitProofs.DecodeEncode
import FitProofs.Chain
import FitProps.GenWF
import FitProps.C10
import FitProps.C05
import FitProps.C07Fix
import FitProps.C07Ok
import FitProps.C07Str
/-!
  C07 — anything Decode accepts can be re-encoded, and one round trip is a fixpoint.

  That `Encode` can *fail* on a decoded File is the known finding D13, a counterexample theorem here.
  Outside C06's domain the content of the re-encoded bytes is checked on every run over all accepted
  inputs by the correspondence and the generation-1/2/3 oracle.
-/
namespace Fit.Props.C07
open Fit

/-- once a container is attached, no message can change the file type or detach the container -/
theorem add_preserves_type (P : Profile) (f f' : FileSt) (m : Msg) (g g' : Globals) (i : Nat)
    (hc : f.cidx = some i) (hv : f.fileId.vals ≠ []) (hmv : m.vals ≠ [])
    (h : f.add P m g = some (f', g')) :
    fileTypeOf f' = fileTypeOf f ∧ f'.cidx = some i := by
  refine ⟨?_, (add_iff.mp h).kept.2.trans hc⟩
  cases add_iff.mp h with
  | fileId _ => exact fileTypeOf_fidKept hc hv hmv
  | _ => rfl

theorem init_matches_type (P : Profile) (f f' : FileSt) (h : f.init P = .ok f') :
    ∃ i, f'.cidx = some i ∧ P.initAns (fileTypeOf f') = .container i := by
  obtain ⟨i, hi, rfl⟩ := init_ok_iff.mp h
  exact ⟨i, rfl, hi⟩

/-- hence `Encode` does not hit its nil-container panic on such a File: the type check passes -/
theorem encode_type_check_passes (P : Profile) (arch : Endian) (f : FileSt) (i : Nat)
    (hc : f.cidx = some i) (ht : P.initAns (fileTypeOf f) = .container i) :
    encode P arch f = (match encodeBody P arch f (P.containers.getD i default) with
      | .error .error => .error
      | .error .panic => .panic
      | .ok body => .ok (finishEncode f body).1 (finishEncode f body).2) :=
  encode_eq_body hc ht

/-- D13 (known finding): a stream that Decode accepts whose File Encode rejects — a
    `file_id.product_name` that is not valid UTF-8 (bytes FF FE). -/
def d13Items : List Item :=
  [.defn ⟨0, .le, 0, [⟨0, 1, 0⟩, ⟨8, 3, 7⟩], []⟩ false,
   .data 0 [[4], [0xFF, 0xFE, 0x00]] []]

def d13Witness : Bool :=
  let data := frameBytes 0x20 2115 (serialize d13Items)
  let o := (decodeSpec Gen.profile {} .full {} data .eof).1
  o.err.isNone && !o.panic &&
    (match o.st.file with
     | some f => (match encode Gen.profile .le f with | .error => true | _ => false)
     | none => false)

theorem reencode_counterexample_utf8 : d13Witness = true := by decide +kernel

/-- on the regenerated profile, every destination of `expandComponents` is an unsigned scalar struct
    field -/
theorem gen_xok : xokB Gen.profile = true := by decide +kernel

theorem gen_fid_layout : fidLayoutB Gen.profile = true := by decide +kernel

/-- **Every File a successful `Decode` returns is well typed and has its container attached.** -/
theorem decoded_file_typed (P : Profile) (hwf : ProfileWF P = true) (hx : xokB P = true) (hfl : fidLayoutB P = true)
    (o : Opts) (g : Globals) (r : Reader) (hs : (decode P o .full g r).1.success) (F : FileSt)
    (hF : (decode P o .full g r).1.st.file = some F) : FileTyped P F ∧ F.cidx.isSome = true := by
  rw [decode_out_eq_spec] at hs hF
  exact decodeSpec_file_typed P hwf hx hfl o g r.data r.stop hs F hF

/-- **`Encode` of the result of a successful `Decode` never panics**, for any input bytes, read
    schedule, option set, package state and byte order. -/
theorem reencode_never_panics (P : Profile) (hwf : ProfileWF P = true) (hx : xokB P = true) (hfl : fidLayoutB P = true)
    (o : Opts) (g : Globals) (r : Reader) (arch : Endian) (hs : (decode P o .full g r).1.success) (F : FileSt)
    (hF : (decode P o .full g r).1.st.file = some F) : encode P arch F ≠ .panic := by
  obtain ⟨h1, h2⟩ := decoded_file_typed P hwf hx hfl o g r hs F hF
  exact encode_no_panic P hwf arch F h1 h2

theorem reencode_never_panics_gen (o : Opts) (g : Globals) (r : Reader) (arch : Endian)
    (hs : (decode Gen.profile o .full g r).1.success) (F : FileSt)
    (hF : (decode Gen.profile o .full g r).1.st.file = some F) : encode Gen.profile arch F ≠ .panic :=
  reencode_never_panics Gen.profile C01.gen_wf gen_xok gen_fid_layout o g r arch hs F hF

set_option maxRecDepth 100000 in
/-- the premises are satisfiable: the 25-byte file of C10, read through any reader that delivers
    its bytes and then EOF, decodes successfully to a File, and `Encode` of that File — in either
    byte order — does not panic -/
example (r : Reader) (hd : r.data = C10.minFile) (hstop : r.stop = .eof) (arch : Endian) :
    ∃ F, (decode Gen.profile {} .full {} r).1.st.file = some F ∧ encode Gen.profile arch F ≠ .panic := by
  have hspec : (decodeSpec Gen.profile {} .full {} C10.minFile .eof).1.success ∧
      (decodeSpec Gen.profile {} .full {} C10.minFile .eof).1.st.file.isSome = true := by decide +kernel
  have hs : (decode Gen.profile {} .full {} r).1.success := by
    rw [decode_out_eq_spec, hd, hstop]; exact hspec.1
  have hf : (decode Gen.profile {} .full {} r).1.st.file.isSome = true := by
    rw [decode_out_eq_spec, hd, hstop]; exact hspec.2
  obtain ⟨F, hF⟩ := Option.isSome_iff_exists.mp hf
  exact ⟨F, hF, reencode_never_panics_gen {} {} r arch hs F hF⟩

theorem gen_held_no_string_arrays : heldNoStrArrB Gen.profile = true := by decide +kernel

/-- **`Encode` of what `Decode` returned fails only through a string** (finding D13, made exact): for
    any input, read schedule, option set, package state and byte order, if every string field of the
    decoded File re-encodes — `encodeString` accepts it at the field's profile length, i.e. cut to the
    field size it is still valid UTF-8 — then `Encode` returns bytes: it cannot panic (the File is
    well typed) and no other value a decoded File can hold is refused by `writeField`
    (`fieldWrite_typed_error`; FitProofs/TypedEncode.lean). -/
theorem reencode_ok_unless_strings (P : Profile) (hwf : ProfileWF P = true) (hx : xokB P = true) (hfl : fidLayoutB P = true)
    (hheld : heldNoStrArrB P = true)
    (o : Opts) (g : Globals) (r : Reader) (arch : Endian) (hs : (decode P o .full g r).1.success) (F : FileSt)
    (hF : (decode P o .full g r).1.st.file = some F)
    (hstr : (∀ pm, P.msg? F.fileId.num = some pm → StringsEncode pm F.fileId) ∧
      (∀ m, F.creator = some m → ∀ pm, P.msg? m.num = some pm → StringsEncode pm m) ∧
      (∀ m, F.tscorr = some m → ∀ pm, P.msg? m.num = some pm → StringsEncode pm m) ∧
      (∀ ms ∈ F.slots, ∀ m ∈ ms, ∀ pm, P.msg? m.num = some pm → StringsEncode pm m)) :
    ∃ bs f', encode P arch F = .ok bs f' := by
  obtain ⟨h1, h2⟩ := decoded_file_typed P hwf hx hfl o g r hs F hF
  exact encode_typed_ok_strings P hwf hheld arch F h1 h2 hstr

theorem reencode_ok_unless_strings_gen (o : Opts) (g : Globals) (r : Reader) (arch : Endian)
    (hs : (decode Gen.profile o .full g r).1.success) (F : FileSt)
    (hF : (decode Gen.profile o .full g r).1.st.file = some F)
    (hstr : (∀ pm, Gen.profile.msg? F.fileId.num = some pm → StringsEncode pm F.fileId) ∧
      (∀ m, F.creator = some m → ∀ pm, Gen.profile.msg? m.num = some pm → StringsEncode pm m) ∧
      (∀ m, F.tscorr = some m → ∀ pm, Gen.profile.msg? m.num = some pm → StringsEncode pm m) ∧
      (∀ ms ∈ F.slots, ∀ m ∈ ms, ∀ pm, Gen.profile.msg? m.num = some pm → StringsEncode pm m)) :
    ∃ bs f', encode Gen.profile arch F = .ok bs f' :=
  reencode_ok_unless_strings Gen.profile C01.gen_wf gen_xok gen_fid_layout gen_held_no_string_arrays o g r arch hs F hF hstr

/-- **The re-encoded bytes pass `CheckIntegrity`** — for every decoded File `Encode` accepts, with no
    hypothesis on its messages: the File carries the header `decodeHeader` accepted (12 or 14 bytes,
    ".FIT", a supported protocol version below 256 — part of the typing invariant, `FileTyped.hdr`), so what
    `Encode` lays out is a frame whose header and trailing CRCs the integrity pass recomputes
    (`C05.encode_passes_integrity_any`). With `reencode_ok_unless_strings`: unless a string stands in
    the way, re-encoding a decoded File gives bytes that pass `CheckIntegrity`. -/
theorem reencode_passes_integrity (P : Profile) (hwf : ProfileWF P = true) (hx : xokB P = true) (hfl : fidLayoutB P = true)
    (o : Opts) (g : Globals) (r : Reader) (arch : Endian) (hs : (decode P o .full g r).1.success) (F : FileSt)
    (hF : (decode P o .full g r).1.st.file = some F) (bs : Bytes) (f' : FileSt)
    (he : encode P arch F = .ok bs f') (hsmall : bs.length < 4294967296)
    (o2 : Opts) (g2 : Globals) (tail : Bytes) (stop : Stop) :
    (decodeSpec P o2 .crcOnly g2 (bs ++ tail) stop).1.success := by
  obtain ⟨h1, _⟩ := decoded_file_typed P hwf hx hfl o g r hs F hF
  obtain ⟨hsz, htag, hp, hp2⟩ := h1.hdr
  exact C05.encode_passes_integrity_any P arch F f' bs he hsz htag ⟨hp, hp2⟩ hsmall o2 g2 tail stop

theorem reencode_passes_integrity_gen (o : Opts) (g : Globals) (r : Reader) (arch : Endian)
    (hs : (decode Gen.profile o .full g r).1.success) (F : FileSt)
    (hF : (decode Gen.profile o .full g r).1.st.file = some F) (bs : Bytes) (f' : FileSt)
    (he : encode Gen.profile arch F = .ok bs f') (hsmall : bs.length < 4294967296)
    (o2 : Opts) (g2 : Globals) (tail : Bytes) (stop : Stop) :
    (decodeSpec Gen.profile o2 .crcOnly g2 (bs ++ tail) stop).1.success :=
  reencode_passes_integrity Gen.profile C01.gen_wf gen_xok gen_fid_layout o g r arch hs F hF bs f' he hsmall o2 g2 tail stop

/-- the string premise is satisfiable and can fail: the product name "AB" of `C06.exampleFileId`
    re-encodes; a name that is cut inside a two-byte character does not (D13) -/
example :
    (match Gen.profile.msg? 0 with
     | some pm => stringsEncodeB pm C06.exampleFileId &&
         !stringsEncodeB pm ⟨0, [.u 4, .u 1, .u 2, .u 3, .t 100 0 0, .u 5,
           .s ((List.replicate 18 65) ++ [0xC3, 0xA9])]⟩
     | none => false) = true := by decide +kernel

/-- **Second generation: the first trip's result is a fixed point** (instance for the tree under
    check; generic statement and proof: `Fit.second_trip_fixpoint`). For every File `f` in the
    decidable round-trip domain of C06 whose messages have no component fields and that `Encode`
    accepts: `Decode (Encode f)` succeeds with a File `F1`, and for every byte order, if `Encode`
    accepts `F1`, then `Decode (Encode F1)` succeeds — with any options and package state, with anything
    after the bytes — and returns the same file_id, file_creator,
    timestamp_correlation, container and slots as `F1`, leaving the accumulators untouched. -/
theorem second_trip_fixpoint (arch arch2 : Endian) (f f' : FileSt) (bs : Bytes)
    (h : encode Gen.profile arch f = .ok bs f') (hdom : C06.fileRTB Gen.profile f = true)
    (hsmall : bs.length < 4294967296)
    (hsh : ∀ i, f.cidx = some i → C06.fileShapeB (Gen.profile.containers.getD i default) f = true)
    (hone : ∀ i, f.cidx = some i → ∀ z ∈ (Gen.profile.containers.getD i default).slots.zip f.slots,
      z.1.many = false → z.2.length ≤ 1)
    (hnx : ∀ ms ∈ f.slots, ∀ m ∈ ms, expandSet.contains m.num = false)
    (o : Opts) (g : Globals) (tail : Bytes) (stop : Stop) :
    ∃ F1 : FileSt,
      (decodeSpec Gen.profile o .full g (bs ++ tail) stop).1.success ∧
      (decodeSpec Gen.profile o .full g (bs ++ tail) stop).1.st.file = some F1 ∧
      ∀ (f2' : FileSt) (bs2 : Bytes), encode Gen.profile arch2 F1 = .ok bs2 f2' → bs2.length < 4294967296 →
        ∀ (o2 : Opts) (g2 : Globals) (tail2 : Bytes) (stop2 : Stop),
          ∃ F2 : FileSt,
            (decodeSpec Gen.profile o2 .full g2 (bs2 ++ tail2) stop2).1.success ∧
            (decodeSpec Gen.profile o2 .full g2 (bs2 ++ tail2) stop2).1.st.file = some F2 ∧
            F2.fileId = F1.fileId ∧ F2.creator = F1.creator ∧ F2.tscorr = F1.tscorr ∧ F2.cidx = F1.cidx ∧
            F2.slots = F1.slots ∧
            (decodeSpec Gen.profile o2 .full g2 (bs2 ++ tail2) stop2).1.st.glob = g2 :=
  Fit.second_trip_fixpoint Gen.profile C01.gen_wf C06.gen_containers_ok arch arch2 f f' bs h hdom hsmall
    (fun i hi => C06.fileShapeB_sound _ f (hsh i hi)) hone hnx o g tail stop

/-- **Second generation, with the second `Encode` derived.** As `second_trip_fixpoint`, and the File `F1`
    that the first trip returns *is accepted* by `Encode` in every byte order: it cannot panic, because a
    decoded File is well typed (`decodeSpec_file_typed`, `encode_no_panic`), and it cannot fail, because
    `F1` is in the round-trip domain again and no value of that domain is refused by `writeField`
    (`encodeBody_no_error`). -/
theorem second_trip_total (arch arch2 : Endian) (f f' : FileSt) (bs : Bytes)
    (h : encode Gen.profile arch f = .ok bs f') (hdom : C06.fileRTB Gen.profile f = true)
    (hsmall : bs.length < 4294967296)
    (hsh : ∀ i, f.cidx = some i → C06.fileShapeB (Gen.profile.containers.getD i default) f = true)
    (hone : ∀ i, f.cidx = some i → ∀ z ∈ (Gen.profile.containers.getD i default).slots.zip f.slots,
      z.1.many = false → z.2.length ≤ 1)
    (hnx : ∀ ms ∈ f.slots, ∀ m ∈ ms, expandSet.contains m.num = false)
    (o : Opts) (g : Globals) (tail : Bytes) (stop : Stop) :
    ∃ F1 : FileSt,
      (decodeSpec Gen.profile o .full g (bs ++ tail) stop).1.success ∧
      (decodeSpec Gen.profile o .full g (bs ++ tail) stop).1.st.file = some F1 ∧
      ∃ (bs2 : Bytes) (f2' : FileSt), encode Gen.profile arch2 F1 = .ok bs2 f2' ∧
        (bs2.length < 4294967296 →
          ∀ (o2 : Opts) (g2 : Globals) (tail2 : Bytes) (stop2 : Stop),
            ∃ F2 : FileSt,
              (decodeSpec Gen.profile o2 .full g2 (bs2 ++ tail2) stop2).1.success ∧
              (decodeSpec Gen.profile o2 .full g2 (bs2 ++ tail2) stop2).1.st.file = some F2 ∧
              F2.fileId = F1.fileId ∧ F2.creator = F1.creator ∧ F2.tscorr = F1.tscorr ∧ F2.cidx = F1.cidx ∧
              F2.slots = F1.slots ∧
              (decodeSpec Gen.profile o2 .full g2 (bs2 ++ tail2) stop2).1.st.glob = g2) :=
  Fit.second_trip_total Gen.profile C01.gen_wf C06.gen_containers_ok gen_xok gen_fid_layout arch arch2 f f' bs h hdom hsmall
    (fun i hi => C06.fileShapeB_sound _ f (hsh i hi)) hone hnx o g tail stop

/-- both trips of `C06.exampleSettings`, evaluated: first trip in byte order `a1`, second in `a2` -/
def secondTripExample (sz : Nat) (a1 a2 : Endian) : Bool :=
  match encode Gen.profile a1 (C06.exampleSettings sz) with
  | .ok bs _ =>
    match (decodeSpec Gen.profile {} .full {} bs .eof).1.st.file with
    | some F1 =>
      match encode Gen.profile a2 F1 with
      | .ok bs2 _ =>
        decide (bs2.length < 4294967296) &&
        match (decodeSpec Gen.profile {} .full {} bs2 .eof).1.st.file with
        | some F2 => decide (F2.slots = F1.slots) && decide (F1.slots = C06.exampleSettingsBack) && decide (F2.fileId = F1.fileId)
        | none => false
      | _ => false
    | none => false
  | _ => false

set_option maxRecDepth 100000 in
/-- the premises of `second_trip_fixpoint` are satisfiable, the second `Encode` included: the File
    that comes back for `C06.exampleSettings` (arrays padded, fillers turned into all-invalid
    arrays) is accepted by `Encode` in the other byte order and decodes to itself -/
example : secondTripExample 12 .le .be = true ∧ secondTripExample 14 .be .le = true := by
  constructor <;> decide +kernel

end Fit.Props.C07
