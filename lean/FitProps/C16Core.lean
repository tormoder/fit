import FitModel.Items
import FitModel.Gen.Profile
import FitProofs.WholeFile
import FitProofs.SortBy
/-!
  C16 — decode options only add information; unknown-item counts are exact.

  In the model the decoder program does not take the options at all: it always counts, and
  `finalize` publishes the two lists only when the corresponding option is set.  (The correspondence
  run checks this structure against the real code under all eight option sets.)
-/
namespace Fit.Props.C16
open Fit

def FileSt.core (f : FileSt) : FileSt := { f with unkM := none, unkF := none }

/-- Options change neither the error, nor panics, nor the bytes pulled from the reader, nor the
    decoded File apart from the two lists; the logger changes nothing at all. -/
theorem options_transparent (P : Profile) (o : Opts) (mode : Mode) (g : Globals) (r : Reader) :
    let a := decode P o mode g r
    let b := decode P {} mode g r
    a.1.err = b.1.err ∧ a.1.panic = b.1.panic ∧ a.2 = b.2 ∧
    a.1.st.file.map FileSt.core = b.1.st.file.map FileSt.core ∧
    a.1.st.glob = b.1.st.glob := by
  simp only [decode_eq, finalize_eq, Option.map_map, true_and, and_true]
  rfl

theorem logger_irrelevant (P : Profile) (o : Opts) (mode : Mode) (g : Globals) (r : Reader) :
    decode P { o with logger := true } mode g r = decode P { o with logger := false } mode g r := by
  simp only [decode_eq, finalize_eq]

theorem lists_only_when_asked (o : Opts) (out : Outcome) (f : FileSt) (hf : out.st.file = some f)
    (hn : f.unkM = none ∧ f.unkF = none) :
    ∀ f', (finalize o out).st.file = some f' →
      (f'.unkM.isSome → o.unkMsgs = true) ∧ (f'.unkF.isSome → o.unkFields = true) := by
  intro f' h
  rw [finalize_eq, hf] at h
  cases h
  dsimp only
  rw [hn.1, hn.2]
  constructor <;> split <;> simp_all

def lookup {κ} [BEq κ] (k : κ) : List (κ × Nat) → Nat
  | [] => 0
  | (k', c) :: rest => if k' == k then c else lookup k rest

theorem lookup_bump_same {κ} [BEq κ] [LawfulBEq κ] (k : κ) (l : List (κ × Nat)) :
    lookup k (bump k l) = lookup k l + 1 := by
  induction l with
  | nil => simp [bump, lookup]
  | cons x xs ih =>
    obtain ⟨k', c⟩ := x
    by_cases h : k' == k
    · simp [bump, lookup, h]
    · simp [bump, lookup, h, ih]

theorem lookup_bump_other {κ} [BEq κ] [LawfulBEq κ] (k k2 : κ) (l : List (κ × Nat)) (hne : (k == k2) = false) :
    lookup k2 (bump k l) = lookup k2 l := by
  induction l with
  | nil =>
    simp [bump, lookup, hne]
  | cons x xs ih =>
    obtain ⟨k', c⟩ := x
    by_cases h : k' == k
    · have hk : k' = k := eq_of_beq h
      subst hk
      simp [bump, lookup, hne]
    · simp [bump, lookup, h, ih]

/-- Counting a sequence of keys with `bump` gives, for every key, its number of occurrences. -/
theorem bump_counts {κ} [BEq κ] [LawfulBEq κ] (ks : List κ) (k : κ) (l0 : List (κ × Nat)) :
    lookup k (ks.foldl (fun acc x => bump x acc) l0) = lookup k l0 + ks.count k := by
  induction ks generalizing l0 with
  | nil => simp
  | cons x xs ih =>
    simp only [List.foldl_cons]
    rw [ih]
    by_cases h : x == k
    · have : x = k := eq_of_beq h
      subst this
      rw [lookup_bump_same, List.count_cons_self]
      omega
    · have h' : (x == k) = false := by simpa using h
      rw [lookup_bump_other _ _ _ h']
      simp [List.count_cons, h']

theorem bump_keys {κ} [BEq κ] [LawfulBEq κ] (k : κ) (l : List (κ × Nat)) :
    (bump k l).map (·.1) = if k ∈ l.map (·.1) then l.map (·.1) else l.map (·.1) ++ [k] := by
  induction l with
  | nil => simp [bump]
  | cons x xs ih =>
    obtain ⟨k', c⟩ := x
    by_cases hk : k' == k
    · simp [bump, eq_of_beq hk]
    · have hne : ¬ k = k' := fun e => hk (by rw [e]; exact beq_self_eq_true _)
      simp only [bump, hk, Bool.false_eq_true, ↓reduceIte, List.map_cons, ih, List.mem_cons, hne, false_or]
      split <;> rfl

theorem bump_keys_nodup {κ} [BEq κ] [LawfulBEq κ] (k : κ) (l : List (κ × Nat))
    (h : (l.map (·.1)).Nodup) : ((bump k l).map (·.1)).Nodup := by
  rw [bump_keys]
  split
  · exact h
  · rename_i hk
    rw [List.nodup_append]
    exact ⟨h, List.pairwise_singleton _ k, fun a ha b hb => by rw [List.mem_singleton.1 hb]; exact fun e => hk (e ▸ ha)⟩

/-- sorted for a Boolean order `lt`: no element is `lt` an earlier one -/
def SortedBy {α} (lt : α → α → Bool) : List α → Prop
  | [] => True
  | x :: xs => (∀ y ∈ xs, lt y x = false) ∧ SortedBy lt xs

theorem insertBy_sorted {α} (lt : α → α → Bool)
    (asym : ∀ a b, lt a b = true → lt b a = false)
    (trans : ∀ a b c, lt a b = false → lt b c = false → lt a c = false)
    (x : α) (l : List α) (h : SortedBy lt l) : SortedBy lt (insertBy lt x l) := by
  induction l with
  | nil => simp [insertBy, SortedBy]
  | cons z zs ih =>
    simp only [insertBy]
    obtain ⟨hz, hs⟩ := h
    split
    · rename_i hlt
      refine ⟨?_, hz, hs⟩
      intro y hy
      simp only [List.mem_cons] at hy
      rcases hy with rfl | hy
      · exact asym _ _ hlt
      · -- lt y z = false and lt z x = false (asym) give lt y x = false
        exact trans y z x (hz y hy) (asym _ _ hlt)
    · rename_i hnlt
      have hnlt' : lt x z = false := by simpa using hnlt
      refine ⟨?_, ih hs⟩
      intro y hy
      rw [mem_insertBy] at hy
      rcases hy with rfl | hy
      · exact hnlt'
      · exact hz y hy

theorem sortBy_sorted {α} (lt : α → α → Bool)
    (asym : ∀ a b, lt a b = true → lt b a = false)
    (trans : ∀ a b c, lt a b = false → lt b c = false → lt a c = false)
    (l : List α) : SortedBy lt (sortBy lt l) := by
  induction l with
  | nil => simp [sortBy, SortedBy]
  | cons x xs ih =>
    simp only [sortBy, List.foldr_cons]
    exact insertBy_sorted lt asym trans x _ ih

/-- by message number -/
def ltM (a b : Nat × Nat) : Bool := decide (a.1 < b.1)
/-- by message number, then field number -/
def ltF (a b : (Nat × Nat) × Nat) : Bool := decide (a.1.1 < b.1.1 ∨ (a.1.1 = b.1.1 ∧ a.1.2 < b.1.2))

/-- `sortBy` with these orders sorts and keeps exactly the entries -/
theorem unknown_lists_sorted (um : List (Nat × Nat)) (uf : List ((Nat × Nat) × Nat)) :
    SortedBy ltM (sortBy ltM um) ∧ SortedBy ltF (sortBy ltF uf) ∧
    (∀ e, e ∈ sortBy ltM um ↔ e ∈ um) ∧ (∀ e, e ∈ sortBy ltF uf ↔ e ∈ uf) := by
  refine ⟨sortBy_sorted _ ?_ ?_ _, sortBy_sorted _ ?_ ?_ _, fun _ => mem_sortBy, fun _ => mem_sortBy⟩
  · intro a b h; simp [ltM] at *; omega
  · intro a b c h1 h2; simp [ltM] at *; omega
  · intro a b h; simp [ltF] at *; omega
  · intro a b c h1 h2; simp [ltF] at *; omega

example : lookup 7 ([7, 3, 7, 7, 3].foldl (fun acc x => bump x acc) []) = 3 := by decide

/-- = `run_items` (Framing.lean) -/
theorem byte_parser_is_record_machine (P : Profile) (limit : Nat) (cont : DecSt → DP) (its : List Item) (fuel : Nat)
    (st : DecSt) (n : Nat) (s : SpecSt) (tail : Bytes) (hfit : ItemsFit P st its)
    (hs : s.rest = serialize its ++ tail) (hl : n + (serialize its).length ≤ limit) (hn : st.n = n) :
    match stepItems P st its with
    | .ok st' =>
      runSpecD limit (decodeFileData P limit (fuel + its.length) st cont) n s =
        runSpecD limit (decodeFileData P limit fuel st' cont) (n + (serialize its).length)
          { s with rest := tail, taken := s.taken + (serialize its).length } ∧ st'.n = n + (serialize its).length
    | .stop o =>
      ∃ e, (runSpecD limit (decodeFileData P limit (fuel + its.length) st cont) n s).1 = .inl e ∧
        e.err = (exitOf o).err :=
  run_items P limit cont its fuel st n s tail hfit hs hl hn

theorem lookup_bumpAll_nil {κ} [BEq κ] [LawfulBEq κ] (ks : List κ) (k : κ) : lookup k (bumpAll ks []) = ks.count k := by
  unfold bumpAll
  rw [bump_counts]
  exact Nat.zero_add _

/-- **The counts are exact, for whole files.** Lay out any list of items as a FIT file (any of the
    three header layouts) that `Decode` accepts. Then, for every message number `n`, the
    unknown-message counter holds the number of data records of the stream whose definition — the
    latest one for their local type — names `n` and `n` is not in the profile (`unkMAll`); and for
    every pair (message, field number), the unknown-field counter holds the number of records of
    that known message that carried that unlisted field number (`unkFAll`: one per field read).
    `finalize` publishes these entries, sorted, when the option is set (`finalize_eq`).  (`hp`, `hlen`: the widths of the
    header's protocol and data-size fields.) -/
theorem unknown_counts_exact (P : Profile) (o : Opts) (k : HdrKind) (g : Globals) (proto profile : Nat)
    (d0 : DefMsg) (b0 : Bool) (fs dev : List Bytes) (rest : List Item) (tail : Bytes) (stop : Stop) (st' : DecSt)
    (hp : proto < 256) (hp2 : proto / 16 ≤ protoMajorMax)
    (hwf0 : DefnWF d0 b0) (hg : d0.global = mnFileId) (hkn : P.known mnFileId = true)
    (hlen : (serialize (.defn d0 b0 :: .data d0.localT fs dev :: rest)).length < 4294967296)
    (hfit : ItemsFitD P (List.replicate 16 none) (.defn d0 b0 :: .data d0.localT fs dev :: rest))
    (hrun : runItems P (afterHeader k g proto profile (serialize (.defn d0 b0 :: .data d0.localT fs dev :: rest)).length).hdr g
      (.defn d0 b0 :: .data d0.localT fs dev :: rest)
      (afterHeader k g proto profile (serialize (.defn d0 b0 :: .data d0.localT fs dev :: rest)).length).crc = .ok st') :
    let out := (decodeSpec P o .full g
      (frameBytesK k proto profile (serialize (.defn d0 b0 :: .data d0.localT fs dev :: rest)) ++ tail) stop).1
    (∀ n, lookup n out.st.unkM =
      (unkMAll P (List.replicate 16 none) (.defn d0 b0 :: .data d0.localT fs dev :: rest)).count n) ∧
    (∀ key, lookup key out.st.unkF =
      (unkFAll P (List.replicate 16 none) (.defn d0 b0 :: .data d0.localT fs dev :: rest)).count key) := by
  intro out
  obtain ⟨hm, hf⟩ := runItems_unk P _ g _ _ st' hrun
  rw [show out = _ from decode_frame_ok P o k g proto profile d0 b0 fs dev rest tail stop st' hp hp2 hwf0 hg hkn hlen hfit hrun,
    (finalize_keeps o _).unkM, (finalize_keeps o _).unkF]
  exact ⟨fun n => (congrArg (lookup n) hm).trans (lookup_bumpAll_nil _ n),
    fun key => (congrArg (lookup key) hf).trans (lookup_bumpAll_nil _ key)⟩

/-- what one record contributes, spelled out: a data record counts its message number iff the
    definition live for its local type names a message the profile does not know, and counts
    (message, field) for each of its fields the profile does not list when it does know the message -/
example (P : Profile) (defs : List (Option DefMsg)) (l : Nat) (fs dev : List Bytes) (dm : DefMsg)
    (h : defs.getD (l % 16) none = some dm) :
    unkMOf P defs (.data l fs dev) = (if P.known dm.global then [] else [dm.global]) ∧
    unkFOf P defs (.data l fs dev) = (if P.known dm.global then unkFRec P dm dm.fields fs else []) := by
  simp only [unkMOf, unkFOf, itemLocal, itemRaws, h, and_self]

end Fit.Props.C16
