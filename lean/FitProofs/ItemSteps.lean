import FitProofs.ItemSpec
import FitProofs.Frame
/-
  What one item, a list of items and a whole record area do to the decoder state (`stepItem`,
  `stepItems`, `runItems`): one statement each, built on those of `ItemSpec.lean`.
-/
namespace Fit
open Fit.Crc

/-- the local message type a data item addresses, as the parser computes it from the item's header byte -/
def itemLocal : Item → Option Nat
  | .defn _ _ => none
  | .data l _ _ => some (l % 16)
  | .cdata l off _ _ => some ((0x80 + l * 32 + off) / 32 % 4)

def itemRaws : Item → List Bytes
  | .defn _ _ => []
  | .data _ fs _ => fs
  | .cdata _ _ fs _ => fs

/-- the message number one item counts as unknown: a data record whose live definition names a
    message number the profile does not know -/
def unkMOf (P : Profile) (defs : List (Option DefMsg)) (it : Item) : List Nat :=
  match itemLocal it with
  | none => []
  | some lt =>
    match defs.getD lt none with
    | some dm => if P.known dm.global then [] else [dm.global]
    | none => []

def unkFOf (P : Profile) (defs : List (Option DefMsg)) (it : Item) : List (Nat × Nat) :=
  match itemLocal it with
  | none => []
  | some lt =>
    match defs.getD lt none with
    | some dm => if P.known dm.global then unkFRec P dm dm.fields (itemRaws it) else []
    | none => []

theorem stepItem_defn {P : Profile} {st st' : DecSt} {d : DefMsg} {devBit : Bool} :
    stepItem P st (.defn d devBit) = .ok st' ↔
      ¬ d.global = mesgNumInvalid ∧ ¬ (!(d.fields.all (validateFieldDef P d.global))) = true ∧
      st' = { st.eat (serializeItem (.defn d devBit)) with
        defs := setAt st.defs d.localT (some (if devBit then d else { d with dev := [] })) } := by
  unfold stepItem
  dsimp only
  by_cases hg : d.global = mesgNumInvalid
  · rw [if_pos hg]
    exact ⟨(fun h => nomatch h), fun h => absurd hg h.1⟩
  rw [if_neg hg]
  by_cases hall : (!(d.fields.all (validateFieldDef P d.global))) = true
  · rw [if_pos hall]
    exact ⟨(fun h => nomatch h), fun h => absurd hall h.2.1⟩
  rw [if_neg hall]
  exact ⟨fun h => ⟨hg, hall, (StepRes.ok.inj h).symm⟩, fun h => congrArg StepRes.ok h.2.2.symm⟩

/-- the shared body of the `.data` / `.cdata` cases of `stepItem_spec`; the three conditions hold by `rfl` in both -/
theorem stepData_item {P : Profile} {hb : Nat} {c : Bool} {fs dev : List Bytes} {st st' : DecSt}
    (h : stepData P hb c fs dev (st.eat [u8 hb]) = .ok st') (it : Item)
    (hloc : itemLocal it = some (if c then hb / 32 % 4 else hb % 16)) (hraws : itemRaws it = fs)
    (hdefs : defsAfter P st.defs it = st.defs) :
    Stepped st st' (defsAfter P st.defs it) (unkMOf P st.defs it) (unkFOf P st.defs it) (DataFit st hb c fs dev)
      ([u8 hb] ++ (fs.flatten ++ dev.flatten)) := by
  obtain ⟨dm, hd, s⟩ := stepData_spec h
  have hd' : st.defs.getD (if c then hb / 32 % 4 else hb % 16) none = some dm := hd
  have hm : unkMOf P st.defs it = if P.known dm.global then [] else [dm.global] := by
    simp only [unkMOf, hloc, hd']
  have hf : unkFOf P st.defs it = if P.known dm.global then unkFRec P dm dm.fields fs else [] := by
    simp only [unkFOf, hloc, hd', hraws]
  rw [hm, hf, hdefs]
  exact ⟨s.hdr, s.fhdr, s.defs, s.unkM, s.unkF, fun hfit => (Ate.eat st [u8 hb]).trans (s.ate hfit)⟩

theorem stepItem_spec {P : Profile} {st st' : DecSt} {it : Item} (h : stepItem P st it = .ok st') :
    Stepped st st' (defsAfter P st.defs it) (unkMOf P st.defs it) (unkFOf P st.defs it) (ItemOK st it)
      (serializeItem it) := by
  cases it with
  | defn d devBit =>
    obtain ⟨hg, hall, rfl⟩ := stepItem_defn.1 h
    refine ⟨rfl, rfl, ?_, rfl, rfl, fun _ => ⟨rfl, rfl⟩⟩
    simp only [defsAfter, if_neg (fun hh => hh.elim hg hall : ¬ (_ ∨ _))]
  | data l fs dev =>
    exact (stepData_item (hb := l) (c := false) h (.data l fs dev) rfl rfl rfl).imp ItemOK.data_fit
  | cdata l off fs dev =>
    exact (stepData_item (c := true) h (.cdata l off fs dev) rfl rfl rfl).imp ItemOK.cdata_fit

theorem serialize_cons (it : Item) (its : List Item) : serialize (it :: its) = serializeItem it ++ serialize its := by
  simp [serialize]

theorem serialize_append (a b : List Item) : serialize (a ++ b) = serialize a ++ serialize b := by
  simp [serialize]

def unkMAll (P : Profile) : List (Option DefMsg) → List Item → List Nat
  | _, [] => []
  | defs, it :: its => unkMOf P defs it ++ unkMAll P (defsAfter P defs it) its

def unkFAll (P : Profile) : List (Option DefMsg) → List Item → List (Nat × Nat)
  | _, [] => []
  | defs, it :: its => unkFOf P defs it ++ unkFAll P (defsAfter P defs it) its

theorem stepItems_spec {P : Profile} {st st' : DecSt} {its : List Item} (h : stepItems P st its = .ok st') :
    Stepped st st' (its.foldl (defsAfter P) st.defs) (unkMAll P st.defs its) (unkFAll P st.defs its)
      (ItemsFit P st its) (serialize its) := by
  induction its generalizing st with
  | nil => simp only [stepItems] at h; cases h; exact ⟨rfl, rfl, rfl, rfl, rfl, fun _ => Ate.refl _⟩
  | cons it its ih =>
    unfold stepItems at h
    cases h1 : stepItem P st it with
    | stop o => rw [h1] at h; cases h
    | ok st1 =>
      rw [h1] at h
      have s1 := stepItem_spec h1
      have s2 := ih h
      rw [s1.defs] at s2
      exact serialize_cons it its ▸ (s1.trans s2).imp fun hfit => ⟨hfit.1, hfit.2 st1 h1⟩

theorem ItemOKD.toOK {st : DecSt} {it : Item} (h : ItemOKD st.defs it) : ItemOK st it := by
  cases it <;> exact h

theorem ItemsFitD.toFit {P : Profile} {its : List Item} {st : DecSt} (h : ItemsFitD P st.defs its) :
    ItemsFit P st its := by
  induction its generalizing st with
  | nil => trivial
  | cons it its ih =>
    refine ⟨h.1.toOK, fun st' hstep => ih ?_⟩
    rw [(stepItem_spec hstep).defs]
    exact h.2

theorem runItems_cons_cons {P : Profile} {hdr : Header} {g : Globals} {crc0 : BitVec 16} {d r : Item} {rest : List Item}
    {st1 st2 : DecSt} {f f' : FileSt}
    (h1 : stepItem P (({ DecSt.init g with hdr := hdr, crc := crc0 } : DecSt).recStart P) d = .ok st1)
    (h2 : stepItem P st1 r = .ok st2) (hf : st2.file = some f) (hinit : f.init P = .ok f') :
    runItems P hdr g (d :: r :: rest) crc0 = stepItems P { st2 with file := some f' } rest := by
  unfold DecSt.recStart DecSt.opened at h1
  unfold runItems
  dsimp only at h1 ⊢
  rw [h1]
  simp only [h2, hf, hinit]

theorem runItems_ok {P : Profile} {hdr : Header} {g : Globals} {its : List Item} {crc0 : BitVec 16} {st' : DecSt}
    (h : runItems P hdr g its crc0 = .ok st') :
    ∃ d r rest st1 st2 f f', its = d :: r :: rest ∧ stepItem P (({ DecSt.init g with hdr := hdr, crc := crc0 } : DecSt).recStart P) d = .ok st1 ∧
      stepItem P st1 r = .ok st2 ∧ st2.file = some f ∧ f.init P = .ok f' ∧
      stepItems P { st2 with file := some f' } rest = .ok st' := by
  unfold runItems at h
  dsimp only at h
  split at h
  · rename_i d r rest
    split at h
    · cases h
    · rename_i st1 h1
      split at h
      · cases h
      · rename_i st2 h2
        split at h
        · cases h
        · rename_i f hf
          split at h
          · cases h
          · rename_i f' hinit
            exact ⟨d, r, rest, st1, st2, f, f', rfl, h1, h2, hf, hinit, h⟩
  · cases h

theorem runItems_spec {P : Profile} {hdr : Header} {g : Globals} {its : List Item} {crc0 : BitVec 16} {st' : DecSt}
    (h : runItems P hdr g its crc0 = .ok st') :
    Stepped (({ DecSt.init g with hdr := hdr, crc := crc0 } : DecSt).recStart P) st' (its.foldl (defsAfter P) (List.replicate 16 none))
      (unkMAll P (List.replicate 16 none) its) (unkFAll P (List.replicate 16 none) its)
      (ItemsFitD P (List.replicate 16 none) its) (serialize its) := by
  obtain ⟨d, r, rest, st1, st2, f, f', rfl, h1, h2, hf, hinit, h3⟩ := runItems_ok h
  have s1 := stepItem_spec h1
  have s2 := stepItem_spec h2
  have s3 := stepItems_spec h3
  rw [s1.defs] at s2
  rw [show ({ st2 with file := some f' } : DecSt).defs = st2.defs from rfl, s2.defs] at s3
  -- `init` only attaches the container to the File
  have hfh : ({ st2 with file := some f' } : DecSt).fhdr = st2.fhdr := by
    obtain ⟨_, _, rfl⟩ := init_ok_iff.mp hinit
    simp only [DecSt.fhdr, hf, Option.map_some]
  have t := (s1.trans s2).trans
    (show Stepped st2 st' _ _ _ _ _ from ⟨s3.hdr, s3.fhdr.trans hfh, s3.defs, s3.unkM, s3.unkF,
      fun h => ⟨(s3.ate h).n, (s3.ate h).crc⟩⟩)
  refine ⟨t.hdr, t.fhdr, t.defs, ?_, ?_, fun hfit => ?_⟩
  -- the `[]` of the statement are the counters of `DecSt.init`
  · rw [t.unkM, List.append_assoc]; rfl
  · rw [t.unkF, List.append_assoc]; rfl
  · rw [serialize_cons, serialize_cons, ← List.append_assoc]
    refine t.ate ⟨⟨hfit.1.toOK, ItemOKD.toOK ?_⟩, ItemsFitD.toFit ?_⟩
    · rw [s1.defs]; exact hfit.2.1
    · exact hfit.2.2

theorem stepItem_unk (P : Profile) (st st' : DecSt) (it : Item) (h : stepItem P st it = .ok st') :
    st'.defs = defsAfter P st.defs it ∧
    st'.unkM = bumpAll (unkMOf P st.defs it) st.unkM ∧
    st'.unkF = bumpAll (unkFOf P st.defs it) st.unkF :=
  have s := stepItem_spec h
  ⟨s.defs, s.unkM, s.unkF⟩

theorem stepItems_unk (P : Profile) (st st' : DecSt) (its : List Item) (h : stepItems P st its = .ok st') :
    st'.unkM = bumpAll (unkMAll P st.defs its) st.unkM ∧ st'.unkF = bumpAll (unkFAll P st.defs its) st.unkF :=
  have s := stepItems_spec h
  ⟨s.unkM, s.unkF⟩

theorem runItems_unk (P : Profile) (hdr : Header) (g : Globals) (its : List Item) (crc0 : BitVec 16) (st' : DecSt)
    (h : runItems P hdr g its crc0 = .ok st') :
    st'.unkM = bumpAll (unkMAll P (List.replicate 16 none) its) [] ∧
    st'.unkF = bumpAll (unkFAll P (List.replicate 16 none) its) [] :=
  ⟨(runItems_spec h).unkM, (runItems_spec h).unkF⟩

theorem stepItems_append (P : Profile) (st : DecSt) (a b : List Item) :
    stepItems P st (a ++ b) =
      match stepItems P st a with
      | .ok st' => stepItems P st' b
      | .stop o => .stop o := by
  induction a generalizing st with
  | nil => rfl
  | cons it its ih =>
    simp only [List.cons_append, stepItems]
    cases stepItem P st it with
    | ok st1 => exact ih st1
    | stop o => rfl

end Fit
