import FitModel.Basic
/-!
  Byte strings as numbers: `enc` and `dec` are inverse of each other, both byte orders reduce to
  least significant byte first (`Endian.lsbFirst`, `leNat`), and the top bit of the last byte is the
  top bit of the number (`leNat_msb`: what sign extension looks at).
-/
namespace Fit

theorem natLE_length (w n : Nat) : (natLE w n).length = w := by
  induction w generalizing n with
  | zero => rfl
  | succ w ih => simp [natLE, ih]

theorem u8_toNat (n : Nat) (h : n < 256) : (UInt8.ofNat n).toNat = n := by
  simp [Nat.mod_eq_of_lt h]

theorem u8_mod (n : Nat) : UInt8.ofNat (n % 256) = UInt8.ofNat n := by
  apply UInt8.toNat_inj.mp
  simp

theorem leNat_natLE (w n : Nat) : leNat (natLE w n) = n % 256 ^ w := by
  induction w generalizing n with
  | zero => simp [natLE, leNat, Nat.mod_one]
  | succ w ih =>
    simp only [natLE, leNat, u8_toNat _ (Nat.mod_lt n (by decide)), ih, Nat.pow_succ]
    rw [Nat.mul_comm (256 ^ w) 256, Nat.mod_mul, Nat.add_comm]

theorem beNat_reverse (bs : Bytes) : beNat bs.reverse = leNat bs := by
  induction bs with
  | nil => rfl
  | cons b bs ih =>
    rw [List.reverse_cons, show beNat (bs.reverse ++ [b]) = beNat bs.reverse * 256 + b.toNat by simp [beNat, List.foldl_append], ih]
    simp only [leNat]
    omega

theorem dec_enc (arch : Endian) (w n : Nat) : arch.dec (arch.enc w n) = n % 256 ^ w := by
  cases arch with
  | le => exact leNat_natLE w n
  | be =>
    simp only [Endian.dec, Endian.enc, natBE]
    rw [beNat_reverse]
    exact leNat_natLE w n

theorem enc_length (arch : Endian) (w n : Nat) : (arch.enc w n).length = w := by
  cases arch <;> simp [Endian.enc, natBE, natLE_length]

theorem pow256 (w : Nat) : 256 ^ w = 2 ^ (8 * w) := by rw [show (256 : Nat) = 2 ^ 8 from rfl, ← Nat.pow_mul]

theorem pow256_half (n : Nat) (h : 0 < n) : 2 * 2 ^ (8 * n - 1) = 256 ^ n := by
  rw [show (256 : Nat) = 2 ^ 8 from rfl, ← Nat.pow_mul, ← Nat.pow_succ']
  congr 1
  omega

theorem leNat_append (a b : Bytes) : leNat (a ++ b) = leNat a + 256 ^ a.length * leNat b := by
  induction a with
  | nil => simp [leNat]
  | cons x xs ih =>
    simp only [List.cons_append, leNat, ih, List.length_cons, Nat.pow_succ]
    rw [Nat.mul_add, Nat.mul_comm _ 256, Nat.mul_assoc, Nat.add_assoc]

theorem leNat_lt (bs : Bytes) : leNat bs < 256 ^ bs.length := by
  induction bs with
  | nil => exact Nat.one_pos
  | cons b bs ih =>
    simp only [leNat, List.length_cons, Nat.pow_succ]
    have := b.toNat_lt
    omega

theorem leNat_replicate_zero (k : Nat) : leNat (List.replicate k 0) = 0 := by
  induction k with
  | zero => rfl
  | succ k ih => rw [List.replicate_succ, leNat, ih]; rfl

theorem leNat_replicate_ff (k : Nat) : leNat (List.replicate k 0xFF) + 1 = 256 ^ k := by
  induction k with
  | zero => rfl
  | succ k ih =>
    rw [List.replicate_succ, leNat, Nat.pow_succ, ← ih]
    have : (0xFF : UInt8).toNat = 255 := rfl
    omega

def Endian.lsbFirst (arch : Endian) (bs : Bytes) : Bytes :=
  match arch with
  | .le => bs
  | .be => bs.reverse

theorem Endian.dec_eq (arch : Endian) (bs : Bytes) : arch.dec bs = leNat (arch.lsbFirst bs) := by
  cases arch
  · rfl
  · rw [← beNat_reverse, Endian.lsbFirst, List.reverse_reverse]; rfl

theorem Endian.lsbFirst_length (arch : Endian) (bs : Bytes) : (arch.lsbFirst bs).length = bs.length := by
  cases arch
  · rfl
  · exact List.length_reverse

theorem Endian.dec_lt (arch : Endian) (bs : Bytes) : arch.dec bs < 256 ^ bs.length := by
  rw [arch.dec_eq, ← arch.lsbFirst_length]
  exact leNat_lt _

theorem leNat_msb (bs : Bytes) (h : bs ≠ []) :
    (bs.getLastD 0).toNat ≥ 128 ↔ 256 ^ bs.length ≤ 2 * leNat bs := by
  obtain ⟨init, last, rfl⟩ : ∃ init last, bs = init ++ [last] := ⟨_, _, (List.dropLast_concat_getLast h).symm⟩
  have hi := leNat_lt init
  have hl := last.toNat_lt
  rw [leNat_append, List.length_append, List.length_singleton, Nat.pow_succ]
  rw [List.getLastD_concat]
  simp only [leNat, Nat.mul_zero, Nat.add_zero]
  generalize 256 ^ init.length = p at hi ⊢
  constructor
  · intro h
    have := Nat.mul_le_mul_left p h
    omega
  · intro h
    refine Decidable.byContradiction fun hn => ?_
    have := Nat.mul_le_mul_left p (show last.toNat ≤ 127 by omega)
    omega

theorem toUnsigned_natCast (bits n : Nat) : toUnsigned bits (n : Int) = n % 2 ^ bits := by
  unfold toUnsigned
  rw [← Int.natCast_emod, Int.toNat_natCast]

theorem toUnsigned_lt (bits : Nat) (z : Int) : toUnsigned bits z < 2 ^ bits := by
  unfold toUnsigned
  have h : (0 : Int) < ((2 ^ bits : Nat) : Int) := by exact_mod_cast Nat.two_pow_pos bits
  have := Int.emod_lt_of_pos z h
  have := Int.emod_nonneg z (Int.ne_of_gt h)
  omega

/-- `b'` is there for Go's `int64(v)` detour of `reflect.Value.SetInt` (`b' = 64`) -/
theorem toSigned_toUnsigned_le (b b' : Nat) (hb : 0 < b) (hle : b ≤ b') (z : Int)
    (hlo : -(2 ^ (b - 1) : Int) ≤ z) (hhi : z < (2 ^ (b - 1) : Int)) : toSigned b (toUnsigned b' z) = z := by
  have hA : (2 : Int) ^ b = 2 * 2 ^ (b - 1) := by
    obtain ⟨c, rfl⟩ : ∃ c, b = c + 1 := ⟨b - 1, by omega⟩
    rw [Int.pow_succ', Nat.add_sub_cancel]
  have hdvd : ((2 ^ b : Nat) : Int) ∣ ((2 ^ b' : Nat) : Int) := by
    exact_mod_cast Nat.pow_dvd_pow 2 hle
  have hpos : (0 : Int) < ((2 ^ b' : Nat) : Int) := by exact_mod_cast Nat.two_pow_pos b'
  -- the low `b` bits of the representation are `z` modulo `2 ^ b`
  have hm : ((toUnsigned b' z % 2 ^ b : Nat) : Int) = z % ((2 ^ b : Nat) : Int) := by
    unfold toUnsigned
    rw [Int.natCast_emod, Int.toNat_of_nonneg (Int.emod_nonneg z (Int.ne_of_gt hpos)), Int.emod_emod_of_dvd z hdvd]
  have hz : z % ((2 ^ b : Nat) : Int) = if 0 ≤ z then z else z + 2 ^ b := by
    push_cast
    split
    · exact Int.emod_eq_of_lt ‹_› (by omega)
    · rw [← Int.add_mul_emod_self_left z (2 ^ b) 1, Int.mul_one]
      exact Int.emod_eq_of_lt (by omega) (by omega)
  unfold toSigned
  simp only
  generalize toUnsigned b' z % 2 ^ b = m at hm
  rw [hz] at hm
  have hAc : ((2 ^ b : Nat) : Int) = 2 ^ b := by push_cast; rfl
  have hHc : ((2 ^ (b - 1) : Nat) : Int) = 2 ^ (b - 1) := by push_cast; rfl
  split at hm <;> split <;> omega

end Fit
