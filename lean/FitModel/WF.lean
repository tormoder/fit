import FitModel.Profile
/-
  Well-formedness of a profile (lookup tables, struct layouts, constructors, containers): the
  decidable facts the decoder and encoder rely on when they access message structs by reflection.
  The instance for the regenerated tables is checked by kernel evaluation in FitProps/GenWF.lean.
-/
namespace Fit

/-- Go kind of a scalar holding base type `b` -/
def scOfBase (b : Nat) : Option Sc :=
  match Base.index b with
  | 0 => some (.u 8) | 1 => some (.i 8) | 2 => some (.u 8) | 3 => some (.i 16) | 4 => some (.u 16)
  | 5 => some (.i 32) | 6 => some (.u 32) | 7 => some .s | 8 => some (.f 32) | 9 => some (.f 64)
  | 10 => some (.u 8) | 11 => some (.u 16) | 12 => some (.u 32) | 13 => some (.u 8)
  | 14 => some (.i 64) | 15 => some (.u 64) | 16 => some (.u 64) | _ => none

/-- the struct field type a profile type code calls for -/
def slotOfType (t : Nat) : Option SlotKind :=
  match tcKind t with
  | .native =>
    match scOfBase (tcBase t) with
    | some k => some (if tcArray t then .sl k else .sc k)
    | none => none
  | .timeUTC | .timeLocal => if tcArray t then none else some .time
  | .lat => if tcArray t then none else some .lat
  | .lng => if tcArray t then none else some .lng
  | .unknown _ => none

/-- the all-invalid value of a field of that type -/
def invalidOfType (t : Nat) : Option Val :=
  match tcKind t with
  | .native =>
    let b := tcBase t
    match scOfBase b with
    | some (.u _) => some (if tcArray t then .us none else .u (Base.invalidNat b))
    | some (.i w) => some (if tcArray t then .is none else .i (toSigned w (Base.invalidNat b)))
    | some (.f _) => some (if tcArray t then .fs none else .f (Base.invalidNat b))
    | some .s => some (if tcArray t then .ss none else .s [])
    | none => none
  | .timeUTC | .timeLocal => some (.t 0 0 0)
  | .lat => some (.lat 0x7FFFFFFF)
  | .lng => some (.lng 0x7FFFFFFF)
  | .unknown _ => none

def allDistinct (l : List Nat) : Bool :=
  match l with
  | [] => true
  | x :: xs => !xs.contains x && allDistinct xs

/-- one lookup entry against the message's layout and constructor -/
def fieldWF (m : PMsg) (f : PField) : Bool :=
  decide (f.num < 255) && decide (f.tcode < 65536) &&
  Base.known (tcBase f.tcode) &&
  -- no float and no 64-bit profile fields (the decoder has no case for them)
  !(Base.isFloat (tcBase f.tcode)) && decide (Base.size (tcBase f.tcode) ≤ 4) &&
  -- time and coordinate kinds carry their fixed 4-byte base types and are never arrays
  (match tcKind f.tcode with
    | .native => true
    | .timeUTC | .timeLocal => tcBase f.tcode == Base.uint32 && !tcArray f.tcode
    | .lat | .lng => tcBase f.tcode == Base.sint32 && !tcArray f.tcode
    | .unknown _ => false) &&
  -- field number 253 (`fieldNumTimeStamp`) is a date_time: the compressed-timestamp path stores a
  -- time.Time into it by reflection
  (decide (f.num ≠ 253) || (tcKind f.tcode == .timeUTC)) &&
  -- the struct field exists, has the Go type the code calls for, and the constructor
  -- initialises it to that type's invalid value
  (match m.layout[f.sindex]?, slotOfType f.tcode with
    | some k, some k' => k == k'
    | _, _ => false) &&
  (match m.invalid[f.sindex]?, invalidOfType f.tcode with
    | some v, some v' => v == v'
    | _, _ => false) &&
  -- encoded sizes fit in one byte
  decide (1 ≤ f.length) &&
  (if tcArray f.tcode || tcBase f.tcode == Base.string then decide (Base.size (tcBase f.tcode) * f.length ≤ 255) else true)

def msgWF (m : PMsg) : Bool :=
  -- lookup rows exist only for known messages; known messages have type, constructor and row
  (m.fields.isEmpty || (m.inFields && m.known)) &&
  (!m.known || (m.inFields && m.hasType && m.hasCtor)) &&
  (!(m.hasType && m.hasCtor) || m.invalid.length == m.layout.length) &&
  m.layout.length == m.fnames.length &&
  -- message numbers are 16-bit and not the invalid marker 0xFFFF, field counts fit the definition record's one-byte count
  decide (m.num < 65535) && decide (m.layout.length < 256) &&
  allDistinct (m.fields.map (·.num)) && allDistinct (m.fields.map (·.sindex)) &&
  m.fields.all (fieldWF m) &&
  -- every struct field is named by exactly one lookup entry (nothing decodes into a field
  -- the table does not know, nothing in the struct is unreachable)
  (!m.known || (List.range m.layout.length).all (fun i => m.fields.any (·.sindex == i)))

def containerWF (P : Profile) (c : Container) : Bool :=
  c.slots.all (fun s => P.known s.msg)

def ProfileWF (P : Profile) : Bool :=
  allDistinct (P.msgs.map (·.num)) && P.msgs.all msgWF && P.containers.all (containerWF P) &&
  P.fileTypes.length == 256 && P.known mnFileId

end Fit
