import FitModel.Items
import FitModel.Gen.Profile
import FitProofs.ListLemmas
import FitProofs.Framing
/-!
  C13 — local message types: the latest definition wins and slots are independent.

  Statements are about the record machine `stepItem` (FitModel/Items.lean), which shares every
  definition with the byte-level parser; `FitProofs/Framing.lean` relates the two.
-/
namespace Fit.Props.C13
open Fit

/-- A definition record that is accepted replaces exactly the slot of its local type … -/
theorem definition_wins (P : Profile) (st st' : DecSt) (d : DefMsg) (devBit : Bool)
    (hl : d.localT < st.defs.length)
    (h : stepItem P st (.defn d devBit) = .ok st') :
    st'.defs.getD d.localT none = some (if devBit then d else { d with dev := [] }) := by
  obtain ⟨_, _, rfl⟩ := stepItem_defn.1 h
  exact getD_setAt_self _ _ _ _ hl

/-- … and never changes how records of other local types are interpreted. -/
theorem redefinition_is_local (P : Profile) (st st' : DecSt) (d : DefMsg) (devBit : Bool) (l : Nat)
    (hne : d.localT ≠ l)
    (h : stepItem P st (.defn d devBit) = .ok st') :
    st'.defs.getD l none = st.defs.getD l none := by
  obtain ⟨_, _, rfl⟩ := stepItem_defn.1 h
  exact getD_setAt_ne _ _ _ _ _ hne

/-- A data record whose local type has no definition is an error. -/
theorem undefined_slot_is_error (P : Profile) (st : DecSt) (l : Nat) (fs dev : List Bytes)
    (hl : l < 16) (h : st.defs.getD l none = none) :
    stepItem P st (.data l fs dev) = .stop (fail (st.eat [u8 l]) .other) := by
  show stepData P l false fs dev (st.eat [u8 l]) = _
  rw [stepData_pre, dataPre_none P l false _ (by
    simp only [Bool.false_eq_true, ↓reduceIte, Nat.mod_eq_of_lt hl]; exact h)]
  rfl

theorem undefined_slot_is_error_compressed (P : Profile) (st : DecSt) (l off : Nat) (fs dev : List Bytes)
    (hl : l < 4) (ho : off < 32) (h : st.defs.getD l none = none) :
    ∃ o, stepItem P st (.cdata l off fs dev) = .stop o ∧ o.err = some .other ∧ o.panic = false := by
  refine ⟨fail (st.eat [u8 (0x80 + l * 32 + off)]) .other, ?_, rfl, rfl⟩
  show stepData P (0x80 + l * 32 + off) true fs dev (st.eat [u8 (0x80 + l * 32 + off)]) = _
  rw [stepData_pre, dataPre_none P _ true _ (by
    simp only [↓reduceIte, show (0x80 + l * 32 + off) / 32 % 4 = l by omega]; exact h)]
  rfl

/-- Record header bits. The compressed-header test is "bit 7 set" (`≥ 128`), the definition test is "bit 6 set".
    The first two conjuncts only say that the local type and the offset the parser extracts (bits 5–6 and 0–4 of a
    compressed header, bits 0–3 otherwise) are in range; they hold of every byte, whatever the test says. -/
theorem header_bits : ∀ b : Fin 256,
    (hasBit b.val compressedHeaderMask = true → (b.val / 32) % 4 < 4 ∧ b.val % 32 < 32) ∧
    (hasBit b.val compressedHeaderMask = false → b.val % 16 < 16) ∧
    (hasBit b.val compressedHeaderMask = (decide (b.val ≥ 128))) ∧
    (hasBit b.val mesgDefinitionMask = (decide ((b.val / 64) % 2 = 1))) := by
  intro b
  have hb := b.isLt
  refine ⟨fun _ => ⟨Nat.mod_lt _ (by decide), Nat.mod_lt _ (by decide)⟩, fun _ => Nat.mod_lt _ (by decide), ?_, ?_⟩
  · -- the top bit of a byte is set from 128 on
    rw [Bool.eq_iff_iff]
    simp only [hasBit, compressedHeaderMask, beq_iff_eq, decide_eq_true_eq]
    omega
  · rw [Bool.eq_iff_iff]
    simp only [hasBit, mesgDefinitionMask, beq_iff_eq, decide_eq_true_eq]

/-- the 16-slot table keeps its size -/
theorem defs_length (P : Profile) (st st' : DecSt) (d : DefMsg) (devBit : Bool)
    (h : stepItem P st (.defn d devBit) = .ok st') : st'.defs.length = st.defs.length := by
  obtain ⟨_, _, rfl⟩ := stepItem_defn.1 h
  exact length_setAt _ _ _

/-- non-vacuity: a definition for record (20) on local type 5 is accepted and then found. -/
example : ∃ st', stepItem Gen.profile (DecSt.init {})
    (.defn ⟨5, .le, 20, [⟨3, 1, 2⟩], []⟩ false) = .ok st' ∧
    (st'.defs.getD 5 none).isSome = true := by
  refine ⟨_, rfl, ?_⟩
  decide

/-- = `run_items` (Framing.lean): the theorems of this file about the record machine are theorems about the decoder
    on every stream that is the serialisation of fitting items. -/
theorem byte_parser_is_record_machine (P : Profile) (limit : Nat) (cont : DecSt → DP) (its : List Item) (fuel : Nat)
    (st : DecSt) (n : Nat) (s : SpecSt) (tail : Bytes) (hfit : ItemsFit P st its)
    (hs : s.rest = serialize its ++ tail) (hl : n + (serialize its).length ≤ limit) (hn : st.n = n) :
    match stepItems P st its with
    | .ok st' =>
      runSpecD limit (decodeFileData P limit (fuel + its.length) st cont) n s =
        runSpecD limit (decodeFileData P limit fuel st' cont) (n + (serialize its).length)
          { s with rest := tail, taken := s.taken + (serialize its).length } ∧ st'.n = n + (serialize its).length
    | .stop o =>
      ∃ e, (runSpecD limit (decodeFileData P limit (fuel + its.length) st cont) n s).1 = .inl e ∧
        e.err = (exitOf o).err :=
  run_items P limit cont its fuel st n s tail hfit hs hl hn

end Fit.Props.C13
