import FitProofs.TypedDecode
import FitProofs.EncodeFile
/-
  `Encode` on a well-typed File: a field write fails only with an error, and only on a string
  (`writeField_typed_error`); hence `Encode` cannot panic.
-/
namespace Fit

theorem encodeString_no_panic (b : Bytes) (n : Nat) (hn : 1 ≤ n) : encodeString b n ≠ .error .panic := by
  unfold encodeString
  have : ¬ n = 0 := by omega
  simp only [this, ↓reduceIte]
  split <;> simp

theorem isNum_of_valOK {k : Sc} {v : Val} (h : ValOK (.sc k) v = true) (hk : k ≠ .s) : v.isNum = true := by
  cases k <;> cases v <;> first | rfl | exact absurd rfl hk | cases h

/-- **`writeField` on a value of the field's Go type fails only with an error, and only on a
    string**: an array of strings, which `Encode` refuses, or a string that `encodeString` refuses.
    Numbers, arrays of numbers, times and coordinates are always written. -/
theorem writeField_typed_error (arch : Endian) (pm : PMsg) (pf : PField) (k : SlotKind) (v : Val)
    (facts : FieldFacts pm pf) (hk : pm.layout[pf.sindex]? = some k) (hv : ValOK k v = true) (e : EncErr)
    (h : writeField arch pf k v = .error e) :
    e = .error ∧ ((tcArray pf.tcode = true ∧ tcBase pf.tcode = Base.string) ∨
      ∃ b, v = .s b ∧ encodeString b pf.length = .error .error) := by
  -- the slot kind is `slotOfType pf.tcode`; `ValOK` then fixes the value's constructor, the one `encodeScalar` matches on
  rw [facts.layout] at hk
  by_cases hnat : tcKind pf.tcode = .native
  · by_cases hstr : tcBase pf.tcode = Base.string
    · rw [slotOfType_native hnat (by rw [hstr]; exact scOfBase_string)] at hk
      cases hk
      cases ha : tcArray pf.tcode with
      | true =>
        rw [writeField_string_array ha hstr] at h
        cases h
        exact ⟨rfl, Or.inl ⟨rfl, hstr⟩⟩
      | false =>
        -- a string field holds a string; what `encodeString` says is what comes out
        simp only [ha, Bool.false_eq_true, ↓reduceIte] at hv h
        cases v <;> first | cases hv | skip
        rename_i b
        rw [writeField_scalar ha, encodeScalar_string hnat hstr] at h
        cases e with
        | panic => exact absurd h (encodeString_no_panic b pf.length facts.len1)
        | error => exact ⟨rfl, Or.inr ⟨b, rfl, h⟩⟩
    · exfalso
      rw [slotOfType_native hnat (facts.sc hstr)] at hk
      cases hk
      cases ha : tcArray pf.tcode with
      | true =>
        rw [ha, if_pos rfl, writeField_array arch pf _ v ha hstr hnat] at h
        cases h
      | false =>
        simp only [ha, Bool.false_eq_true, ↓reduceIte] at hv h
        rw [writeField_scalar ha] at h
        rw [encodeScalar_num arch pf _ v hnat hstr (isNum_of_valOK hv (by unfold scOfInt; split <;> nofun))] at h
        cases h
  · exfalso
    obtain ⟨_, ha, _⟩ := facts.fixed hnat
    cases hkd : tcKind pf.tcode with
    | native => exact hnat hkd
    | unknown n => exact facts.not_unknown n hkd
    | timeUTC =>
      rw [slotOfType_time (.inl hkd) ha] at hk; cases hk
      cases v <;> first | cases hv | skip
      rw [writeField_time ha, encodeScalar_timeUTC hkd] at h
      cases h
    | timeLocal =>
      rw [slotOfType_time (.inr hkd) ha] at hk; cases hk
      cases v <;> first | cases hv | skip
      rw [writeField_time ha, encodeScalar_timeLocal hkd] at h
      cases h
    | lat =>
      rw [slotOfType_lat hkd ha] at hk; cases hk
      cases v <;> first | cases hv | skip
      rw [writeField_lat ha, encodeScalar_lat hkd] at h
      cases h
    | lng =>
      rw [slotOfType_lng hkd ha] at hk; cases hk
      cases v <;> first | cases hv | skip
      rw [writeField_lng ha, encodeScalar_lng hkd] at h
      cases h

theorem writeField_no_panic (arch : Endian) (pm : PMsg) (pf : PField) (k : SlotKind) (v : Val)
    (facts : FieldFacts pm pf) (hk : pm.layout[pf.sindex]? = some k) (hv : ValOK k v = true) :
    writeField arch pf k v ≠ .error .panic :=
  fun h => by cases (writeField_typed_error arch pm pf k v facts hk hv .panic h).1

theorem fieldWrite_typed_error (arch : Endian) (pm : PMsg) (hmw : MsgFacts pm) (m : Msg) (hv : ValsOK pm.layout m.vals)
    (pf : PField) (hp : pf ∈ pm.fields) (e : EncErr) (h : fieldWrite arch pm m pf = .error e) :
    e = .error ∧ ((tcArray pf.tcode = true ∧ tcBase pf.tcode = Base.string) ∨
      ∃ b, m.vals[pf.sindex]? = some (.s b) ∧ encodeString b pf.length = .error .error) := by
  have facts := hmw.fieldFacts pf hp
  obtain ⟨k, hk, _⟩ := facts.slot
  have hlt : pf.sindex < m.vals.length := by rw [hv.1]; exact (List.getElem?_eq_some_iff.mp hk).1
  have hval : m.vals[pf.sindex]? = some m.vals[pf.sindex] := List.getElem?_eq_getElem hlt
  rw [fieldWrite, hk, hval] at h
  obtain ⟨h1, h2⟩ := writeField_typed_error arch pm pf k _ facts hk (hv.2 _ k _ hk hval) e h
  exact ⟨h1, h2.imp_right fun ⟨b, hb, he⟩ => ⟨b, hb ▸ hval, he⟩⟩

theorem encodeMesgDef_some (pm : PMsg) (hmw : msgWF pm = true) (hk : pm.known = true) (m : Msg)
    (hv : ValsOK pm.layout m.vals) : ∃ fs, encodeMesgDef pm m = some fs := by
  rw [encodeMesgDef_eq]
  refine Option.isSome_iff_exists.mp (mapM_isSome fun i hi => ?_)
  have hlt : i < pm.layout.length := hv.1 ▸ List.mem_range.mp (List.mem_filter.mp hi).1
  exact Option.isSome_iff_exists.mpr (fieldBySindex_some pm i ((msgWF_facts hmw).cover hk i hlt))

theorem group_valsOK {P : Profile} {m0 : Msg} {rest : List Msg} (hm : ∀ m ∈ m0 :: rest, MsgOK P m)
    (hnum : ∀ m ∈ m0 :: rest, ∀ m' ∈ m0 :: rest, m.num = m'.num) :
    ∃ pm, P.msg? m0.num = some pm ∧ pm.known = true ∧ ∀ m ∈ m0 :: rest, ValsOK pm.layout m.vals := by
  obtain ⟨pm, hpm, hk, _⟩ := hm m0 (List.mem_cons_self ..)
  refine ⟨pm, hpm, hk, fun m hmem => ?_⟩
  obtain ⟨pm', hpm', _, hv'⟩ := hm m hmem
  rw [hnum m hmem m0 (List.mem_cons_self ..), hpm] at hpm'
  cases hpm'
  exact hv'

/-- a group of well-typed messages of one type has its plan: it fails only as a field write fails -/
theorem encodeGroup_typed_ne_error (P : Profile) (hwf : ProfileWF P = true) (arch : Endian) {m0 : Msg} {rest : List Msg}
    (hm : ∀ m ∈ m0 :: rest, MsgOK P m) (hnum : ∀ m ∈ m0 :: rest, ∀ m' ∈ m0 :: rest, m.num = m'.num) {e : EncErr}
    (hw : ∀ pm, P.msg? m0.num = some pm → MsgFacts pm → ∀ m ∈ m0 :: rest, ValsOK pm.layout m.vals →
      ∀ pf ∈ pm.fields, fieldWrite arch pm m pf ≠ .error e) :
    encodeGroup P arch (m0 :: rest) ≠ .error e := by
  obtain ⟨pm, hpm, hk, hall⟩ := group_valsOK hm hnum
  have f := msg?_facts hwf hpm
  obtain ⟨defs, hdefs⟩ := Option.isSome_iff_exists.mp (mapM_isSome fun m hmem =>
    Option.isSome_iff_exists.mpr (encodeMesgDef_some pm (msg?_wf hwf hpm) hk m (hall m hmem)))
  refine encodeGroup_ne_error hwf (fun _ => ⟨pm, defs, hpm, (f.known hk).2.2, (f.known hk).2.1, fun m hmem => ?_, hdefs⟩)
    fun pm' hpm' pf hp _ m hmem => ?_
  · rw [(hall m hmem).1, f.invLen (f.known hk).2.1 (f.known hk).2.2]
  · cases hpm.symm.trans hpm'
    exact hw pm hpm f m hmem (hall m hmem) pf hp

theorem encodeGroup_no_panic (P : Profile) (hwf : ProfileWF P = true) (arch : Endian) (ms : List Msg)
    (hm : ∀ m ∈ ms, MsgOK P m) (hnum : ∀ m ∈ ms, ∀ m' ∈ ms, m.num = m'.num) : encodeGroup P arch ms ≠ .error .panic := by
  cases ms with
  | nil => exact encodeGroup_nil_ne
  | cons m0 rest =>
    exact encodeGroup_typed_ne_error P hwf arch hm hnum fun pm _ f m _ hv pf hp he => by
      cases (fieldWrite_typed_error arch pm f m hv pf hp .panic he).1

theorem FileTyped.groups {P : Profile} {f : FileSt} (hf : FileTyped P f) {i : Nat} (hi : f.cidx = some i)
    {g : List Msg} (hg : g ∈ [f.fileId] :: restGroups (P.containers.getD i default) f) :
    (∀ m ∈ g, MsgOK P m) ∧ ∀ m ∈ g, ∀ m' ∈ g, m.num = m'.num := by
  rcases restGroups_cases hg with rfl | ⟨m, rfl, hm⟩ | ⟨z, hz, rfl⟩
  · exact ⟨(fun _ h => by cases h), (fun _ h => by cases h)⟩
  · have hok : MsgOK P m := by
      rcases hm with rfl | hm | hm
      · exact hf.fid.1
      · exact (hf.creator m hm).1
      · exact (hf.tscorr m hm).1
    exact ⟨fun x hx => List.mem_singleton.mp hx ▸ hok,
      fun x hx x' hx' => by rw [List.mem_singleton.mp hx, List.mem_singleton.mp hx']⟩
  · obtain ⟨j, hj⟩ := List.mem_iff_getElem?.mp (List.of_mem_zip hz).2
    have hso := hf.slots i hi j z.2 hj
    exact ⟨fun m hm => (hso m (slotMsgs_sub hm)).1,
      fun m hm m' hm' => by rw [(hso m (slotMsgs_sub hm)).2, (hso m' (slotMsgs_sub hm')).2]⟩

theorem encode_no_panic (P : Profile) (hwf : ProfileWF P = true) (arch : Endian) (f : FileSt) (hf : FileTyped P f)
    (hc : f.cidx.isSome = true) : encode P arch f ≠ .panic := by
  obtain ⟨i, hi⟩ := Option.isSome_iff_exists.mp hc
  have hbody : encodeBody P arch f (P.containers.getD i default) ≠ .error .panic :=
    encodeBody_ne_error hwf fun g hg => encodeGroup_no_panic P hwf arch g (hf.groups hi hg).1 (hf.groups hi hg).2
  exact fun he => hbody ((encodeBody_of_fail hi (hf.ctype i hi)).1 he)

end Fit
