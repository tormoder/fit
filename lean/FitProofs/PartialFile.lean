import FitProofs.Partial
import FitProofs.WholeFile
/-
  C11 at file level: `Decode` of a frame cut inside a record (or read through a reader that fails
  there) does not succeed, and its early exit holds the File with exactly the messages of the records
  that were complete (that the exit is no panic is C01's).

  The cut frame is `u8 k.size :: (hdrTail … L ++ bytes)` here and in C16Cut (the declared size `L` is free of what
  follows), `(frameBytesK … records).take …` in C11; `frameBytesK_take` turns the one into the other.
-/
namespace Fit
open Fit.Crc

theorem frameBytesK_take (k : HdrKind) (proto profile : Nat) (a b c : Bytes) (j : Nat) (hj : j ≤ b.length) :
    (frameBytesK k proto profile (a ++ (b ++ c))).take (k.size + (a.length + j)) =
      u8 k.size :: (hdrTail k proto profile (a ++ (b ++ c)).length ++ (a ++ b.take j)) := by
  have h13 := hdrTail_length k proto profile (a ++ (b ++ c)).length
  have hsz := k.size_cases
  rw [frameBytesK_split, show k.size + (a.length + j) = (hdrTail k proto profile (a ++ (b ++ c)).length).length + (a.length + j) + 1 by omega,
    List.take_succ_cons, List.take_length_add_append, List.append_assoc, List.append_assoc, List.take_length_add_append,
    List.take_append_of_le_length hj]

/-- **Whole-file form of the partial-File theorem.** A header (of any of the three kinds) declaring `L` record bytes;
    then the bytes of a file_id definition and data record and of further complete records
    (`done`); then only a strict prefix of the next record `it`, after which the stream ends or the
    reader fails.  If the item machine accepts the complete records, `Decode` stops with an early
    exit (not a success) whose File and accumulators are exactly the item machine's
    after the complete records.  (`R` as in `cut_record`.) -/
theorem decode_cut_partial (P : Profile) (o : Opts) (k : HdrKind) (g : Globals) (proto profile : Nat)
    (d0 : DefMsg) (b0 : Bool) (fs dev : List Bytes) (done : List Item) (it : Item) (more : List Item) (j : Nat)
    (stop : Stop) (st1 : DecSt)
    (hp : proto < 256) (hp2 : proto / 16 ≤ protoMajorMax)
    (hwf0 : DefnWF d0 b0) (hg : d0.global = mnFileId) (hkn : P.known mnFileId = true)
    (L : Nat) (hL : L = (serialize (.defn d0 b0 :: .data d0.localT fs dev :: (done ++ it :: more))).length)
    (hlen : L < 4294967296)
    (hfit : ItemsFitD P (List.replicate 16 none) (.defn d0 b0 :: .data d0.localT fs dev :: (done ++ it :: more)))
    (hrun : runItems P (afterHeader k g proto profile L).hdr g (.defn d0 b0 :: .data d0.localT fs dev :: done) (afterHeader k g proto profile L).crc = .ok st1)
    (hj : j < (serializeItem it).length)
    (R : DecSt → DecSt → Prop := fun _ _ => True)
    (hR : ∀ limit st, ExitsSat (R st) (oneRecord P limit st) := by intros; exact trivialSat _) :
    ∃ e : ErrExit,
      (decodeSpec P o .full g (u8 k.size :: (hdrTail k proto profile L ++
        (serialize (.defn d0 b0 :: .data d0.localT fs dev :: done) ++ (serializeItem it).take j))) stop).1 =
        finalize o e.toOutcome ∧ e.st.fileOf = st1.fileOf ∧ R st1 e.st := by
  obtain ⟨sb, hrec, hrun', hfit3, hn2⟩ := recordsProg_start hwf0 hg hkn hlen hfit hrun
  have hLsum : L = (serializeItem (.defn d0 b0) ++ serializeItem (.data d0.localT fs dev)).length +
      (serialize done).length + (serializeItem it).length + (serialize more).length := by
    rw [hL, serialize_cons_cons_length, serialize_append, serialize_cons]
    simp only [List.length_append]; omega
  -- the data phase stops inside the cut record
  have hD : ∃ e : ErrExit,
      (runSpecD L (recordsProg P .full (recState0 P k g proto profile L)) 0
        ⟨serialize (.defn d0 b0 :: .data d0.localT fs dev :: done) ++ (serializeItem it).take j,
          stop, k.size, k.size + L⟩).1 = .inl e ∧ e.st.fileOf = st1.fileOf ∧ R st1 e.st := by
    rw [hrec L 0 _ (serialize done ++ (serializeItem it).take j)
      (by rw [serialize_cons_cons, List.append_assoc]) (by omega)]
    have hdl := serialize_length_ge done
    rw [show L + 1 = (L - done.length) + 1 + done.length by omega]
    exact cut_items P L (L - done.length) (fun st => DProg.done st) done it more sb
      (0 + (serializeItem (.defn d0 b0) ++ serializeItem (.data d0.localT fs dev)).length) _ j
      hfit3 hj rfl (by omega) (by rw [hn2, Nat.zero_add]) st1 hrun' R hR
  obtain ⟨e, he, hfe⟩ := hD
  refine ⟨e, ?_, hfe⟩
  rw [decodeSpec_eq, decodeProg_full_exit (frame_headerAt k g proto profile L _ stop hp hp2).1
    ((congrArg Prod.fst (frame_records P .full k g proto profile L _ stop hp hp2 hlen)).trans he)]

end Fit
