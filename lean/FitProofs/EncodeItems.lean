import FitModel.Encode
import FitModel.Items
import FitProofs.WF
import FitProofs.ItemSpec
import FitProofs.ListLemmas
import FitProofs.FieldCodec
/-
  What `Encode` writes for one message, piece by piece: the data record as the concatenation of its
  fields' bytes (`fieldWrite`), the definition written for a list of fields (`szOf`, `fdOf`, `defOf`),
  `getEncodeMesgDef` in closed form, and that every field has exactly the size its definition
  declares (`writeField_length`) — the step C05 ("the stream is self-describing") rests on.
-/
namespace Fit

/-- what `Encode` writes for field `pf` of message `m`: one element of the list `mesgBytes` concatenates -/
def fieldWrite (arch : Endian) (pm : PMsg) (m : Msg) (pf : PField) : Except EncErr Bytes :=
  match pm.layout[pf.sindex]?, m.vals[pf.sindex]? with
  | some k, some v => writeField arch pf k v
  | _, _ => .error .panic

theorem fieldWrite_ok {arch : Endian} {pm : PMsg} {m : Msg} {pf : PField} {part : Bytes}
    (h : fieldWrite arch pm m pf = .ok part) :
    ∃ k v, pm.layout[pf.sindex]? = some k ∧ m.vals[pf.sindex]? = some v ∧ writeField arch pf k v = .ok part := by
  unfold fieldWrite at h
  split at h
  · exact ⟨_, _, ‹_›, ‹_›, h⟩
  · cases h

theorem mesgBytes_eq (arch : Endian) (pm : PMsg) (m : Msg) (fs : List PField) :
    mesgBytes arch pm m fs = (concatE (fs.map (fieldWrite arch pm m))).map (UInt8.ofNat 0 :: ·) := by
  unfold mesgBytes
  show (match concatE (fs.map (fieldWrite arch pm m)) with | .ok body => _ | .error e => _) = _
  cases concatE (fs.map (fieldWrite arch pm m)) <;> rfl

theorem mesgBytes_error {arch : Endian} {pm : PMsg} {m : Msg} {fs : List PField} {e : EncErr}
    (h : mesgBytes arch pm m fs = .error e) : ∃ pf ∈ fs, fieldWrite arch pm m pf = .error e := by
  rw [mesgBytes_eq] at h
  cases hc : concatE (fs.map (fieldWrite arch pm m)) with
  | ok b => rw [hc] at h; cases h
  | error e' =>
    rw [hc] at h
    cases h
    obtain ⟨pf, hp, he⟩ := List.mem_map.mp (concatE_error hc)
    exact ⟨pf, hp, he⟩

/-- the size byte the encoder writes into the definition for a field -/
def szOf (pf : PField) : Nat :=
  let b := tcBase pf.tcode
  (if b = Base.string then pf.length
   else if tcArray pf.tcode then (Base.size b * pf.length) % 256 else Base.size b) % 256

def fdOf (pf : PField) : FieldDef := ⟨pf.num, szOf pf, tcBase pf.tcode⟩

/-- the definition item the encoder writes for a list of fields -/
def defOf (arch : Endian) (global : Nat) (fs : List PField) : DefMsg := ⟨0, arch, global, fs.map fdOf, []⟩

theorem defBytes_eq (arch : Endian) (global : Nat) (fs : List PField) :
    defBytes arch global fs = serializeItem (.defn (defOf arch global fs) false) := by
  unfold defBytes serializeItem defOf
  simp only [Bool.false_eq_true, ↓reduceIte, Nat.add_zero, List.append_nil, List.length_map]
  have h1 : (fs.map fun pf =>
      [UInt8.ofNat pf.num,
        UInt8.ofNat ((if tcBase pf.tcode = Base.string then pf.length
          else if tcArray pf.tcode = true then (Base.size (tcBase pf.tcode) * pf.length) % 256
          else Base.size (tcBase pf.tcode)) % 256),
        UInt8.ofNat (tcBase pf.tcode)]).flatten = serializeFieldDefs (fs.map fdOf) := by
    induction fs with
    | nil => rfl
    | cons f fs ih =>
      simp only [List.map_cons, List.flatten_cons, serializeFieldDefs, ih]
      simp [fdOf, szOf, u8]
  have h2 : defBytes.archByteOf arch = archByte arch := by cases arch <;> rfl
  rw [h1, h2]
  simp [u8, u8_mod]

theorem encodeString_length {b : Bytes} {n : Nat} {bs : Bytes} (h : encodeString b n = .ok bs) : bs.length = n := by
  unfold encodeString at h
  split at h
  · cases h
  · simp only at h
    split at h
    · injection h with h
      subst h
      simp only [List.length_append, List.length_take, List.length_replicate]
      omega
    · cases h

theorem takeWhile_zeros (n : Nat) : (List.replicate n (0 : UInt8)).takeWhile (· != 0) = [] := by
  cases n <;> simp [List.replicate_succ]

theorem utf8Valid_zeros (n : Nat) : utf8Valid (List.replicate n 0) = true := by
  induction n with
  | zero => rfl
  | succ k ih =>
    rw [List.replicate_succ]
    unfold utf8Valid
    simp only [UInt8.toNat_zero, Nat.zero_lt_succ, ↓reduceIte]
    exact ih

theorem encodeString_fits {b : Bytes} {n : Nat} (hfit : b.length < n)
    (hutf : utf8Valid (b ++ List.replicate (n - b.length) 0) = true) :
    encodeString b n = .ok (b ++ List.replicate (n - b.length) 0) := by
  have hn : n ≠ 0 := by omega
  have hmin : min b.length (n - 1) = b.length := by omega
  simp [encodeString, hn, hmin, hutf]

theorem encodeString_nil {n : Nat} (hn : ¬ n = 0) : encodeString [] n = .ok (List.replicate n 0) :=
  encodeString_fits (by simp only [List.length_nil]; omega) (utf8Valid_zeros n)

theorem encodeScalar_length {arch : Endian} {pf : PField} {k : Sc} {v : Val} {bs : Bytes}
    (h : encodeScalar arch pf k v = .ok bs) :
    bs.length = if tcKind pf.tcode = .native then (if tcBase pf.tcode = Base.string then pf.length else scWidth k) else 4 := by
  have num : ∀ n, tcKind pf.tcode = .native →
      (if tcBase pf.tcode = Base.string then Except.error EncErr.error else .ok (arch.enc (scWidth k) n)) = .ok bs →
      bs.length = if tcKind pf.tcode = .native then (if tcBase pf.tcode = Base.string then pf.length else scWidth k) else 4 := by
    intro n hk h
    split at h
    · cases h
    · cases h
      simp only [*, ↓reduceIte, enc_length]
  unfold encodeScalar at h
  split at h
  · cases h; simp only [*, reduceCtorEq, ↓reduceIte, enc_length]
  · cases h; simp only [*, reduceCtorEq, ↓reduceIte, enc_length]
  · cases h; simp only [*, reduceCtorEq, ↓reduceIte, enc_length]
  · cases h; simp only [*, reduceCtorEq, ↓reduceIte, enc_length]
  · split at h
    · split at h
      · cases h
        simp only [*, ↓reduceIte]
        exact encodeString_length ‹_›
      · cases h
    · cases h
  · exact num _ ‹_› h
  · exact num _ ‹_› h
  · exact num _ ‹_› h
  · cases h

theorem szOf_lt (pf : PField) : szOf pf < 256 := by
  unfold szOf; exact Nat.mod_lt _ (by decide)

theorem szOf_eq {pm : PMsg} {pf : PField} (facts : FieldFacts pm pf) :
    szOf pf = Base.size (tcBase pf.tcode) *
      (if tcArray pf.tcode = true ∨ tcBase pf.tcode = Base.string then pf.length else 1) ∧ szOf pf ≤ 255 := by
  have hlt := szOf_lt pf
  refine ⟨?_, by omega⟩
  have hsm := facts.small
  unfold szOf
  by_cases hs : tcBase pf.tcode = Base.string
  · have hb := facts.lenB (Or.inr hs)
    rw [hs, show Base.size Base.string = 1 from rfl] at hb ⊢
    simp only [↓reduceIte, or_true]
    omega
  · cases ha : tcArray pf.tcode with
    | true =>
      have hb := facts.lenB (Or.inl ha)
      simp only [hs, ↓reduceIte, true_or]
      omega
    | false =>
      simp only [hs, ↓reduceIte, Bool.false_eq_true, or_self, Nat.mul_one]
      omega

theorem flatten_enc_length (arch : Endian) (w : Nat) (ns : List Nat) : ((ns.map (arch.enc w)).flatten).length = w * ns.length := by
  rw [flatten_length_of (w := w) fun b hb => by obtain ⟨n, _, rfl⟩ := List.mem_map.mp hb; exact enc_length _ _ _,
    List.length_map, Nat.mul_comm]

/-- **every field the encoder writes has exactly the size its definition declares** -/
theorem writeField_length (arch : Endian) (pm : PMsg) (pf : PField) (k : SlotKind) (v : Val) (bs : Bytes)
    (facts : FieldFacts pm pf) (hslot : slotOfType pf.tcode = some k)
    (h : writeField arch pf k v = .ok bs) : bs.length = szOf pf := by
  cases ha : tcArray pf.tcode with
  | true =>
    have hnat : tcKind pf.tcode = .native :=
      Decidable.byContradiction fun hk => by rw [(facts.fixed hk).2.1] at ha; cases ha
    have hstr : tcBase pf.tcode ≠ Base.string := fun e => by rw [writeField_string_array ha e] at h; cases h
    obtain ⟨sck, hsc, rfl⟩ := slotOfType_native_inv hnat hslot
    cases hsc.symm.trans (facts.sc hstr)
    rw [ha, if_pos rfl, writeField_array arch pf _ v ha hstr hnat] at h
    cases h
    rw [List.length_append, flatten_enc_length, flatten_replicate_length, enc_length, List.length_map,
      List.length_take, scWidth_scOfInt, (szOf_eq facts).1, if_pos (Or.inl ha), Nat.mul_comm (pf.length - _), ← Nat.mul_add]
    congr 1
    omega
  | false =>
    -- a scalar is one `encodeScalar`
    have hsk : ∃ sk, encodeScalar arch pf sk v = .ok bs ∧ ∀ c, k = .sc c → sk = c := by
      cases k with
      | sc c => exact ⟨c, (writeField_scalar ha).symm.trans h, fun _ e => by cases e; rfl⟩
      | time => exact ⟨_, (writeField_time ha).symm.trans h, fun _ e => by cases e⟩
      | lat => exact ⟨_, (writeField_lat ha).symm.trans h, fun _ e => by cases e⟩
      | lng => exact ⟨_, (writeField_lng ha).symm.trans h, fun _ e => by cases e⟩
      | _ => simp [writeField, ha] at h
    obtain ⟨sk, he, hk⟩ := hsk
    rw [encodeScalar_length he]
    by_cases hnat : tcKind pf.tcode = .native
    · obtain ⟨sck, hsc, hkk⟩ := slotOfType_native_inv hnat hslot
      rw [ha] at hkk
      rw [if_pos hnat, hk sck hkk]
      by_cases hstr : tcBase pf.tcode = Base.string
      · rw [if_pos hstr, (szOf_eq facts).1, if_pos (Or.inr hstr), hstr, show Base.size Base.string = 1 from rfl,
          Nat.one_mul]
      · cases hsc.symm.trans (facts.sc hstr)
        rw [if_neg hstr, scWidth_scOfInt, (szOf_eq facts).1, if_neg (by simp [ha, hstr]), Nat.mul_one]
    · obtain ⟨hstr, _, h4⟩ := facts.fixed hnat
      rw [if_neg hnat, (szOf_eq facts).1, if_neg (by simp [ha, hstr]), Nat.mul_one, h4]

theorem fieldBySindex_mem {pm : PMsg} {i : Nat} {pf : PField} (h : fieldBySindex pm i = some pf) : pf ∈ pm.fields :=
  List.mem_of_find?_eq_some h

theorem fieldBySindex_sindex {pm : PMsg} {i : Nat} {pf : PField} (h : fieldBySindex pm i = some pf) : pf.sindex = i := by
  simpa using List.find?_some h

theorem fieldBySindex_of_mem {pm : PMsg} (hf : MsgFacts pm) {pf : PField} (h : pf ∈ pm.fields) :
    fieldBySindex pm pf.sindex = some pf :=
  find?_distinct (f := PField.sindex) hf.sindexes h

theorem fieldBySindex_some (pm : PMsg) (i : Nat) (h : ∃ pf ∈ pm.fields, pf.sindex = i) : ∃ pf, fieldBySindex pm i = some pf := by
  unfold fieldBySindex
  cases hf : pm.fields.find? (·.sindex == i) with
  | some pf => exact ⟨pf, rfl⟩
  | none =>
    obtain ⟨pf, hp, hs⟩ := h
    have := List.find?_eq_none.mp hf pf hp
    simp [hs] at this

/-- `getEncodeMesgDef` in closed form -/
theorem encodeMesgDef_eq (pm : PMsg) (m : Msg) :
    encodeMesgDef pm m = ((List.range m.vals.length).filter
      fun i => !isInvalidVal pm i (m.vals.getD i (.u 0))).mapM (fieldBySindex pm) := by
  unfold encodeMesgDef
  dsimp only
  induction List.range m.vals.length with
  | nil => rfl
  | cons i idx ih =>
    rw [List.foldr_cons, ih, List.filter_cons]
    cases hv : isInvalidVal pm i (m.vals.getD i (.u 0)) with
    | true =>
      rw [if_neg (by decide)]
      cases List.mapM (fieldBySindex pm) (idx.filter (fun i => !isInvalidVal pm i (m.vals.getD i (.u 0)))) <;> rfl
    | false =>
      rw [if_pos (show (!false) = true from rfl), List.mapM_cons]
      cases List.mapM (fieldBySindex pm) (idx.filter fun i => !isInvalidVal pm i (m.vals.getD i (.u 0))) <;>
        cases fieldBySindex pm i <;> rfl

theorem encodeMesgDef_sindex {pm : PMsg} {m : Msg} {fs : List PField} (h : encodeMesgDef pm m = some fs) :
    fs.map (·.sindex) = (List.range m.vals.length).filter (fun i => !isInvalidVal pm i (m.vals.getD i (.u 0))) ∧
    ∀ pf ∈ fs, fieldBySindex pm pf.sindex = some pf := by
  rw [encodeMesgDef_eq, mapM_eq_some_iff] at h
  generalize (List.range m.vals.length).filter (fun i => !isInvalidVal pm i (m.vals.getD i (.u 0))) = idx at h
  induction idx generalizing fs with
  | nil => cases fs <;> simp_all
  | cons i idx ih =>
    cases fs with
    | nil => simp at h
    | cons pf fs =>
      simp only [List.map_cons, List.cons.injEq] at h
      obtain ⟨h1, h2⟩ := ih h.2
      have hs := fieldBySindex_sindex h.1
      refine ⟨by simp [hs, h1], ?_⟩
      intro p hp
      cases hp with
      | head => rw [hs]; exact h.1
      | tail _ hp => exact h2 p hp

theorem encodeMesgDef_mem {pm : PMsg} {m : Msg} {fs : List PField} (h : encodeMesgDef pm m = some fs) :
    ∀ pf ∈ fs, pf ∈ pm.fields :=
  fun pf hp => fieldBySindex_mem ((encodeMesgDef_sindex h).2 pf hp)

theorem mem_filter_valid (pm : PMsg) (m : Msg) (i : Nat) :
    i ∈ (List.range m.vals.length).filter (fun i => !isInvalidVal pm i (m.vals.getD i (.u 0))) ↔
      i < m.vals.length ∧ isInvalidVal pm i (m.vals.getD i (.u 0)) = false := by
  simp

theorem encodeMesgDef_spec {pm : PMsg} {m : Msg} {fs : List PField} (h : encodeMesgDef pm m = some fs) :
    (∀ pf ∈ fs, pf.sindex < m.vals.length ∧ isInvalidVal pm pf.sindex (m.vals.getD pf.sindex (.u 0)) = false) ∧
    (∀ i, i < m.vals.length → isInvalidVal pm i (m.vals.getD i (.u 0)) = false → ∃ pf ∈ fs, pf.sindex = i) := by
  obtain ⟨h1, _⟩ := encodeMesgDef_sindex h
  constructor
  · intro pf hp
    rw [← mem_filter_valid, ← h1]
    exact List.mem_map_of_mem hp
  · intro i hi hv
    have : i ∈ fs.map (·.sindex) := by rw [h1, mem_filter_valid]; exact ⟨hi, hv⟩
    simpa using this

theorem invalid_of_not_covered {pm : PMsg} {m : Msg} {fs : List PField}
    (hcov : ∀ i, i < m.vals.length → isInvalidVal pm i (m.vals.getD i (.u 0)) = false → ∃ pf ∈ fs, pf.sindex = i)
    {i : Nat} {v : Val} (hv : m.vals[i]? = some v) (hi : ∀ pf ∈ fs, pf.sindex ≠ i) : isInvalidVal pm i v = true := by
  cases hiv : isInvalidVal pm i v with
  | true => rfl
  | false =>
    obtain ⟨pf, hp, e⟩ := hcov i (List.getElem?_eq_some_iff.mp hv).1 (by rwa [getD_of_getElem? _ _ _ _ hv])
    exact absurd e (hi pf hp)

theorem encodeMesgDef_sorted {pm : PMsg} {m : Msg} {fs : List PField} (h : encodeMesgDef pm m = some fs) :
    fs.Pairwise (fun a b => a.sindex < b.sindex) := by
  have : (fs.map (·.sindex)).Pairwise (· < ·) := by
    rw [(encodeMesgDef_sindex h).1]
    exact List.Pairwise.filter _ List.pairwise_lt_range
  exact List.pairwise_map.mp this

theorem fieldsFit_of_writes (arch : Endian) (pm : PMsg) (m : Msg) (fs : List PField) (parts : List Bytes)
    (hfw : ∀ pf ∈ fs, FieldFacts pm pf) (h : fs.map (fieldWrite arch pm m) = parts.map .ok) :
    FieldsFit (fs.map fdOf) parts := by
  induction fs generalizing parts with
  | nil =>
    cases parts with
    | nil => trivial
    | cons _ _ => simp at h
  | cons pf fs ih =>
    cases parts with
    | nil => simp at h
    | cons part parts =>
      simp only [List.map_cons, List.cons.injEq] at h
      obtain ⟨k, v, hk, _, hw⟩ := fieldWrite_ok h.1
      have facts := hfw pf (List.mem_cons_self ..)
      exact ⟨writeField_length arch pm pf k v part facts (facts.layout.symm.trans hk) hw,
        ih parts (fun p hp => hfw p (List.mem_cons_of_mem _ hp)) h.2⟩

end Fit
