import FitModel.Decode
/- `sortBy` keeps its members: what C16 (unknown-number lists) and C20 (StrCheck's two sorted lists) need of it -/
namespace Fit

theorem mem_insertBy {α} {lt : α → α → Bool} {x y : α} {l : List α} :
    y ∈ insertBy lt x l ↔ y = x ∨ y ∈ l := by
  induction l with
  | nil => simp [insertBy]
  | cons z zs ih =>
    simp only [insertBy]
    split
    · simp
    · simp only [List.mem_cons, ih]
      exact or_left_comm

theorem mem_sortBy {α} {lt : α → α → Bool} {y : α} {l : List α} : y ∈ sortBy lt l ↔ y ∈ l := by
  induction l with
  | nil => simp [sortBy]
  | cons x xs ih =>
    show y ∈ insertBy lt x (sortBy lt xs) ↔ _
    rw [mem_insertBy, ih, List.mem_cons]

end Fit
