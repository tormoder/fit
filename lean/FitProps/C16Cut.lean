import FitProps.C16Core
import FitProofs.PartialFile
/-!
  C16, last clause: when decoding fails part-way the counters of the returned state still account
  for every record completed before the failure.  The counters only grow while a record is read
  (`oneRecord_cnt`), so what an early exit carries is at least what the complete records counted.
-/
namespace Fit.Props.C16
open Fit

/-- the counters of `b` are at least those of `a` -/
def CntGE (a b : DecSt) : Prop :=
  (∀ k, lookup k a.unkM ≤ lookup k b.unkM) ∧ (∀ k, lookup k a.unkF ≤ lookup k b.unkF)

theorem CntGE.refl (a : DecSt) : CntGE a a := ⟨fun _ => Nat.le_refl _, fun _ => Nat.le_refl _⟩

theorem lookup_le_bump {κ} [BEq κ] [LawfulBEq κ] (k k' : κ) (l : List (κ × Nat)) : lookup k l ≤ lookup k (bump k' l) := by
  by_cases h : (k' == k) = true
  · have : k' = k := by simpa using h
    subst this
    rw [lookup_bump_same]; omega
  · rw [lookup_bump_other k' k l (by simpa using h)]; exact Nat.le_refl _

theorem CntGE.of_reads {a b : DecSt} (h : Reads a b) : CntGE a b := by
  induction h with
  | refl => exact CntGE.refl a
  | eat _ _ _ ih => exact ih
  | ts _ _ _ ih => exact ih
  | unkF k _ ih => exact ⟨ih.1, fun key => Nat.le_trans (ih.2 key) (lookup_le_bump key k _)⟩
  | unkM k _ ih => exact ⟨fun key => Nat.le_trans (ih.1 key) (lookup_le_bump key k _), ih.2⟩

theorem oneRecord_cnt (P : Profile) (limit : Nat) (st : DecSt) : ExitsSat (CntGE st) (oneRecord P limit st) :=
  (oneRecord_reads P limit st).mono fun _ h => .of_reads h

/-- **The lists of a decode that fails part-way account for every completed record.** A frame (header
    of any of the three layouts) cut — or read through a reader that fails — inside a record, after the
    file_id records and the complete records `done`: `Decode` does not succeed, and the two counters of the state
    it returns — from which `finalize` builds the published lists (`lists_only_when_asked`,
    `unknown_lists_sorted`) — are, key by key, at least the exact counts of the complete records
    (`unknown_counts_exact`'s `unkMAll` / `unkFAll`).  A lower bound only: how much the record in progress had
    already added when the stream ended is not bounded here.  (`hp`, `hlen`: the widths of the header's protocol and
    data-size fields.) -/
theorem unknown_counts_on_cut (P : Profile) (o : Opts) (k : HdrKind) (g : Globals) (proto profile : Nat)
    (d0 : DefMsg) (b0 : Bool) (fs dev : List Bytes) (done : List Item) (it : Item) (more : List Item) (j : Nat)
    (stop : Stop) (st1 : DecSt)
    (hp : proto < 256) (hp2 : proto / 16 ≤ protoMajorMax)
    (hwf0 : DefnWF d0 b0) (hg : d0.global = mnFileId) (hkn : P.known mnFileId = true)
    (L : Nat) (hL : L = (serialize (.defn d0 b0 :: .data d0.localT fs dev :: (done ++ it :: more))).length)
    (hlen : L < 4294967296)
    (hfit : ItemsFitD P (List.replicate 16 none) (.defn d0 b0 :: .data d0.localT fs dev :: (done ++ it :: more)))
    (hrun : runItems P (afterHeader k g proto profile L).hdr g (.defn d0 b0 :: .data d0.localT fs dev :: done)
      (afterHeader k g proto profile L).crc = .ok st1)
    (hj : j < (serializeItem it).length) :
    let out := (decodeSpec P o .full g (u8 k.size :: (hdrTail k proto profile L ++
        (serialize (.defn d0 b0 :: .data d0.localT fs dev :: done) ++ (serializeItem it).take j))) stop).1
    ¬ out.success ∧
    (∀ n, (unkMAll P (List.replicate 16 none) (.defn d0 b0 :: .data d0.localT fs dev :: done)).count n ≤ lookup n out.st.unkM) ∧
    (∀ key, (unkFAll P (List.replicate 16 none) (.defn d0 b0 :: .data d0.localT fs dev :: done)).count key ≤ lookup key out.st.unkF) := by
  intro out
  obtain ⟨e, he, _, hcnt⟩ := decode_cut_partial P o k g proto profile d0 b0 fs dev done it more j stop st1 hp hp2 hwf0 hg hkn
    L hL hlen hfit hrun hj CntGE (fun limit st => oneRecord_cnt P limit st)
  obtain ⟨hm, hf⟩ := runItems_unk P _ g _ _ st1 hrun
  rw [show out = _ from he]
  refine ⟨fun hs => e.toOutcome_not_success ((finalize_success o _).1 hs), fun n => ?_, fun key => ?_⟩
  · have := hcnt.1 n
    rw [hm, lookup_bumpAll_nil] at this
    rw [(finalize_keeps o _).unkM, e.toOutcome_eq]
    exact this
  · have := hcnt.2 key
    rw [hf, lookup_bumpAll_nil] at this
    rw [(finalize_keeps o _).unkF, e.toOutcome_eq]
    exact this

end Fit.Props.C16
