import FitProofs.WholeFile
/-!
  `CheckIntegrity` accepts every frame: a header of one of the three layouts declaring the number of
  record bytes that follow, any record bytes at all, and the CRC of both — whatever comes after.
  (For `Decode` the records must also parse; for the integrity pass they are only hashed.)
-/
namespace Fit
open Fit.Crc

theorem integ_accepts_frame (P : Profile) (o : Opts) (k : HdrKind) (g : Globals) (proto profile : Nat) (recs tail : Bytes)
    (stop : Stop) (hp : proto < 256) (hp2 : proto / 16 ≤ protoMajorMax) (hlen : recs.length < 4294967296) :
    (decodeSpec P o .crcOnly g (frameBytesK k proto profile recs ++ tail) stop).1.success := by
  rw [frameBytesK_append]
  generalize hfc : checksum (frameHdr k proto profile recs.length ++ recs) = fc
  obtain ⟨hH, hadv⟩ := frame_headerAt k g proto profile recs.length (recs ++ ([lo fc, hi fc] ++ tail)) stop hp hp2
  refine decodeSpec_success.2 ?_
  rw [decodeProg_crcOnly hH, ← SpecSt.adv_adv, hadv, afterHeader_dataSize hlen,
    if_pos (by dsimp only; rw [List.length_append]; omega), checkCRC_run,
    if_pos (by simp only [SpecSt.framed_rest, SpecSt.adv_rest, List.drop_left', List.length_append, List.length_cons]; omega)]
  -- header, records and stored CRC drive the register to zero
  have hc : update (update (afterHeader k g proto profile recs.length).crc recs) [lo fc, hi fc] = 0#16 := by
    rw [afterHeader_crc, show update (checksum (frameHdr k proto profile recs.length)) recs = fc by
      rw [← hfc, checksum, checksum, update_append]]
    exact update_lo_hi fc
  simp only [SpecSt.framed_rest, SpecSt.adv_rest, List.take_left', List.drop_left', List.cons_append, List.nil_append,
    List.take_succ_cons, List.take_zero, hc, ↓reduceIte]
  exact ⟨rfl, rfl⟩

end Fit
