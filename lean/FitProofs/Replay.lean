import FitProofs.DecodeEncode
/-
  C06, file level: what the replay of `File.add` over the encoder's message order
  yields.  Every slot of the container receives exactly its own messages, in order, each passed
  through `expandComponents` when its type has component fields — so the decoded File equals the
  encoded one slot by slot, up to that expansion and array padding.
-/
namespace Fit

/-- the messages `ms` of slot `done.length` join what it holds (`acc`); `done`, `post`: the slots before and
    after; `hone`: a pointer field takes at most one message, and only while it is empty -/
theorem addAll_slot (P : Profile) (ci : Nat) (n : Nat) (hns : n ∉ commonNums) (ms : List Msg) (hnum : ∀ m ∈ ms, m.num = n)
    (F : FileSt) (g : Globals) (hc : F.cidx = some ci) (done post : List (List Msg)) (acc : List Msg)
    (hs : slotFor (P.containers.getD ci default) n = some done.length) (hsl : F.slots = done ++ acc :: post)
    (hone : ((P.containers.getD ci default).slots.getD done.length default).many = false → acc.length + ms.length ≤ 1) :
    ∃ xl, addAll P (F, g) ms =
      some ({ F with slots := done ++ (acc ++ (expandList P g ms).1) :: post, xlog := xl }, (expandList P g ms).2) := by
  induction ms generalizing F g acc with
  | nil => exact ⟨F.xlog, by simp only [expandList, List.append_nil, ← hsl]; rfl⟩
  | cons m ms ih =>
    have hmn : m.num = n := hnum m (List.mem_cons_self ..)
    have hadd : F.add P m g = some (_, _) := add_iff.mpr (.slot ci (hmn ▸ hns) hc)
    have hv : (if ((P.containers.getD ci default).slots.getD done.length default).many
        then acc ++ [(expandMsg P m g).1] else [(expandMsg P m g).1]) = acc ++ [(expandMsg P m g).1] := by
      cases hm : ((P.containers.getD ci default).slots.getD done.length default).many with
      | true => rfl
      | false => rw [List.eq_nil_of_length_eq_zero (by have := hone hm; rw [List.length_cons] at this; omega : acc.length = 0)]; rfl
    rw [containerAdd_some _ g (hmn ▸ hs), hsl, setAt_append_cons, getD_append_cons, hv] at hadd
    simp only [expandList]
    rw [List.append_cons acc]
    simp only [addAll, hadd]
    apply ih
    · exact fun x hx => hnum x (List.mem_cons_of_mem _ hx)
    · exact hc
    · rfl
    · intro hm
      have := hone hm
      simp only [List.length_append, List.length_cons, List.length_nil] at this ⊢
      omega

theorem addAll_slots (P : Profile) (ci : Nat)
    (hd : allDistinct ((P.containers.getD ci default).slots.map (·.msg)) = true)
    (zs : List (CSlot × List Msg)) (pre : List CSlot)
    (hcs : (P.containers.getD ci default).slots = pre ++ zs.map (·.1))
    (hz : ∀ z ∈ zs, z.1.msg ∉ commonNums ∧ ∀ m ∈ z.2, m.num = z.1.msg)
    (F : FileSt) (g : Globals) (hc : F.cidx = some ci) (done : List (List Msg)) (hlen : done.length = pre.length)
    (hsl : F.slots = done ++ List.replicate zs.length []) :
    ∃ xl, addAll P (F, g) (zs.flatMap slotMsgs) =
      some ({ F with slots := done ++ (expandSlots P g (zs.map slotMsgs)).1, xlog := xl },
        (expandSlots P g (zs.map slotMsgs)).2) := by
  induction zs generalizing pre done F g with
  | nil =>
    have : done = F.slots := by simpa using hsl.symm
    subst this
    exact ⟨F.xlog, by simp only [List.map_nil, expandSlots, List.append_nil]; rfl⟩
  | cons z zs ih =>
    simp only [List.map_cons] at hcs
    have hslot := slotFor_at _ pre z.1 (zs.map (·.1)) hcs hd
    have hmany : ((P.containers.getD ci default).slots.getD pre.length default).many = z.1.many := by
      rw [hcs, getD_append_cons]
    obtain ⟨hns, hnum⟩ := hz z (List.mem_cons_self ..)
    obtain ⟨xl1, h1⟩ := addAll_slot P ci z.1.msg hns (slotMsgs z) (fun m hm => hnum m (slotMsgs_sub hm)) F g hc
      done (List.replicate zs.length []) [] (hlen ▸ hslot) hsl (fun hm => by
        rw [hlen, hmany] at hm
        simp [slotMsgs, hm, List.length_take, Nat.min_le_left])
    simp only [List.flatMap_cons, List.map_cons, expandSlots]
    rw [List.append_cons done, addAll_append, h1]
    simp only [List.nil_append]
    apply ih (pre ++ [z.1])
    · rw [hcs]; simp
    · exact fun x hx => hz x (List.mem_cons_of_mem _ hx)
    · exact hc
    · simp [hlen]
    · simp

/-- the shape of a File as the typed API builds it: file_creator / timestamp_correlation carry their
    own message numbers, the container has one entry per struct field, each holding messages of the
    field's element type -/
structure FileShape (c : Container) (f : FileSt) : Prop where
  creatorNum : ∀ m, f.creator = some m → m.num = mnFileCreator
  tscorrNum : ∀ m, f.tscorr = some m → m.num = mnTimestampCorrelation
  len : f.slots.length = c.slots.length
  nums : ∀ z ∈ c.slots.zip f.slots, ∀ m ∈ z.2, m.num = z.1.msg

/-- what must hold of a container description: distinct element types, none of them one of the
    message types `File` keeps itself (checked on the regenerated profile by evaluation) -/
def containerOK (c : Container) : Bool :=
  allDistinct (c.slots.map (·.msg)) &&
  c.slots.all fun s => decide (s.msg ≠ mnFileId ∧ s.msg ≠ mnFileCreator ∧ s.msg ≠ mnTimestampCorrelation ∧
    s.msg ≠ mnFieldDescription ∧ s.msg ≠ mnDeveloperDataId)

theorem encodedMsgs_eq (c : Container) (f : FileSt) :
    encodedMsgs c f = f.creator.toList ++ (f.tscorr.toList ++ (c.slots.zip f.slots).flatMap slotMsgs) := by
  unfold encodedMsgs
  congr 2

/-- the replay, computed: from the freshly attached container, `add` over the encoder's message
    order rebuilds file_creator, timestamp_correlation and every slot (messages expanded, in order) -/
theorem replay_file (P : Profile) (ci : Nat) (hok : containerOK (P.containers.getD ci default) = true)
    (f : FileSt) (hsh : FileShape (P.containers.getD ci default) f) (H : Header) (g : Globals) :
    ∃ F, addAll P ({ hdr := H, fileId := f.fileId, cidx := some ci,
                     slots := List.replicate (P.containers.getD ci default).slots.length [] }, g)
          (encodedMsgs (P.containers.getD ci default) f) =
        some (F, (expandSlots P g (((P.containers.getD ci default).slots.zip f.slots).map slotMsgs)).2) ∧
      F.hdr = H ∧ F.fileId = f.fileId ∧ F.creator = f.creator ∧ F.tscorr = f.tscorr ∧ F.fieldDescs = [] ∧ F.devIds = [] ∧
      F.cidx = some ci ∧
      F.slots = (expandSlots P g (((P.containers.getD ci default).slots.zip f.slots).map slotMsgs)).1 := by
  unfold containerOK at hok
  simp only [Bool.and_eq_true, List.all_eq_true, decide_eq_true_eq] at hok
  obtain ⟨hd, hns⟩ := hok
  have hcr : ∀ F : FileSt, F.creator = none →
      addAll P (F, g) f.creator.toList = some ({ F with creator := f.creator }, g) := by
    intro F hF
    cases hc : f.creator with
    | none => cases F; cases hF; rfl
    | some m => simp only [Option.toList, addAll, add_iff.mpr (.creator (hsh.creatorNum m hc))]
  have hts : ∀ F : FileSt, F.tscorr = none →
      addAll P (F, g) f.tscorr.toList = some ({ F with tscorr := f.tscorr }, g) := by
    intro F hF
    cases hc : f.tscorr with
    | none => cases F; cases hF; rfl
    | some m => simp only [Option.toList, addAll, add_iff.mpr (.tscorr (hsh.tscorrNum m hc))]
  have hmap : ((P.containers.getD ci default).slots.zip f.slots).map (·.1) = (P.containers.getD ci default).slots :=
    List.map_fst_zip (by rw [hsh.len]; exact Nat.le_refl _)
  have hzl : ((P.containers.getD ci default).slots.zip f.slots).length = (P.containers.getD ci default).slots.length := by
    rw [List.length_zip, hsh.len, Nat.min_self]
  obtain ⟨xl, h3⟩ := addAll_slots P ci hd ((P.containers.getD ci default).slots.zip f.slots) [] (by rw [hmap]; rfl)
    (fun z hz => ⟨by simpa [commonNums] using hns z.1 (List.of_mem_zip hz).1, hsh.nums z hz⟩)
    { hdr := H, fileId := f.fileId, cidx := some ci, slots := List.replicate (P.containers.getD ci default).slots.length [],
      creator := f.creator, tscorr := f.tscorr } g rfl [] rfl (by rw [hzl]; rfl)
  refine ⟨?_, ?h, ?_⟩
  case h =>
    rw [encodedMsgs_eq, addAll_append, hcr _ rfl]
    simp only
    rw [addAll_append, hts _ rfl]
    exact h3
  exact ⟨rfl, rfl, rfl, rfl, rfl, rfl, rfl, List.nil_append _⟩

theorem containerOK_getD (P : Profile) (h : ∀ c ∈ P.containers, containerOK c = true) (i : Nat) :
    containerOK (P.containers.getD i default) = true := by
  rw [List.getD_eq_getElem?_getD]
  cases hi : P.containers[i]? with
  | none => rfl
  | some c => exact h c (List.mem_of_getElem? hi)

theorem FileShape.wire {c : Container} {f : FileSt} (P : Profile) (h : FileShape c f) : FileShape c (wireFile P c f) := by
  refine ⟨?_, ?_, ?_, ?_⟩
  · intro m hm
    simp only [wireFile, Option.map_eq_some_iff] at hm
    obtain ⟨m0, hm0, rfl⟩ := hm
    rw [wire1_num]; exact h.creatorNum m0 hm0
  · intro m hm
    simp only [wireFile, Option.map_eq_some_iff] at hm
    obtain ⟨m0, hm0, rfl⟩ := hm
    rw [wire1_num]; exact h.tscorrNum m0 hm0
  · simp only [wireFile, List.length_map, List.length_zip, h.len, Nat.min_self]
  · intro z hz m hm
    simp only [wireFile] at hz
    rw [zip_map_zip] at hz
    simp only [List.mem_map] at hz
    obtain ⟨z0, hz0, rfl⟩ := hz
    exact wireSlot_nums P z0.1.many z0.2 z0.1.msg (h.nums z0 hz0) m hm

theorem wireFile_pointer_le_one (P : Profile) {c : Container} {f : FileSt}
    (h : ∀ z ∈ c.slots.zip f.slots, z.1.many = false → z.2.length ≤ 1) :
    ∀ z ∈ c.slots.zip (wireFile P c f).slots, z.1.many = false → z.2.length ≤ 1 := by
  intro z hz hm
  rw [show (wireFile P c f).slots = (c.slots.zip f.slots).map fun z => wireSlot P z.1.many z.2 from rfl, zip_map_zip] at hz
  obtain ⟨z0, hz0, rfl⟩ := List.mem_map.mp hz
  simp only [wireSlot_length]
  exact h z0 hz0 hm

/-- padding brings in no message with component fields: a slot keeps its message number, and is
    empty only if it was -/
theorem wireFile_plain (P : Profile) {c : Container} {f : FileSt} (hsh : FileShape c f)
    (h : ∀ ms ∈ f.slots, ∀ m ∈ ms, expandSet.contains m.num = false) :
    ∀ ms ∈ (wireFile P c f).slots, ∀ m ∈ ms, expandSet.contains m.num = false := by
  intro ms hms m hm
  obtain ⟨z0, hz0, rfl⟩ := List.mem_map.mp (show ms ∈ (c.slots.zip f.slots).map fun z => wireSlot P z.1.many z.2 from hms)
  rw [wireSlot_nums P z0.1.many z0.2 z0.1.msg (hsh.nums z0 hz0) m hm]
  cases hz : z0.2 with
  | nil => rw [hz] at hm; cases hm
  | cons m1 rest =>
    have hm1 : m1 ∈ z0.2 := by rw [hz]; exact List.mem_cons_self ..
    rw [← hsh.nums z0 hz0 m1 hm1]
    exact h z0.2 (List.of_mem_zip hz0).2 m1 hm1

theorem decode_encode_content (P : Profile) (hwf : ProfileWF P = true) (hcont : ∀ c ∈ P.containers, containerOK c = true)
    (arch : Endian) (f f' : FileSt) (bs : Bytes)
    (h : encode P arch f = .ok bs f') (hdom : FileRT P arch f) (hsmall : bs.length < 4294967296)
    (hsh : ∀ i, f.cidx = some i → FileShape (P.containers.getD i default) f)
    (o : Opts) (g : Globals) (tail : Bytes) (stop : Stop) :
    ∃ (i : Nat) (F' : FileSt), f.cidx = some i ∧
      (decodeSpec P o .full g (bs ++ tail) stop).1.success ∧
      (decodeSpec P o .full g (bs ++ tail) stop).1.st.file = some F' ∧
      F'.fileId = wire1 P f.fileId ∧ F'.creator = f.creator.map (wire1 P) ∧ F'.tscorr = f.tscorr.map (wire1 P) ∧
      F'.cidx = f.cidx ∧ F'.fieldDescs = [] ∧ F'.devIds = [] ∧
      F'.slots = (expandSlots P g (((P.containers.getD i default).slots.zip
        (wireFile P (P.containers.getD i default) f).slots).map slotMsgs)).1 ∧
      (decodeSpec P o .full g (bs ++ tail) stop).1.st.glob =
        (expandSlots P g (((P.containers.getD i default).slots.zip
          (wireFile P (P.containers.getD i default) f).slots).map slotMsgs)).2 ∧
      ((F'.hdr.size = headerSizeNoCRC ∨ F'.hdr.size = headerSizeCRC) ∧ F'.hdr.dtype = fitTag ∧ F'.hdr.proto = f.hdr.proto) := by
  obtain ⟨i, H, C, F, G, F', hci, hadd, hsucc, hglob, hfile, hsame, hH⟩ :=
    decode_encode_file P hwf arch f f' bs h hdom hsmall o g tail stop
  obtain ⟨F2, hadd2, r1, r2, r3, r4, r5, r6, r7, r8⟩ := replay_file P i (containerOK_getD P hcont i) (wireFile P (P.containers.getD i default) f) ((hsh i hci).wire P) H g
  cases hadd.symm.trans hadd2
  obtain ⟨s1, s2, s3, s4, s5, s6, s7, s8, s9⟩ := hsame
  simp only at s1 s2 s3 s4 s5 s6 s7 s8 s9
  have hh : F'.hdr = H := s1.trans r1
  refine ⟨i, F', hci, hsucc, hfile, s3.trans r2, s4.trans r3, s5.trans r4, ?_, s6.trans r5, s7.trans r6, s9.trans r8, ?_, ?_⟩
  · rw [s8, r7, hci]
  · exact hglob
  · rw [hh]; exact hH

theorem decode_encode_identity (P : Profile) (hwf : ProfileWF P = true) (hcont : ∀ c ∈ P.containers, containerOK c = true)
    (arch : Endian) (f f' : FileSt) (bs : Bytes)
    (h : encode P arch f = .ok bs f') (hdom : FileRT P arch f) (hsmall : bs.length < 4294967296)
    (hsh : ∀ i, f.cidx = some i → FileShape (P.containers.getD i default) f)
    (hone : ∀ i, f.cidx = some i → ∀ z ∈ (P.containers.getD i default).slots.zip f.slots, z.1.many = false → z.2.length ≤ 1)
    (hnx : ∀ ms ∈ f.slots, ∀ m ∈ ms, expandSet.contains m.num = false)
    (o : Opts) (g : Globals) (tail : Bytes) (stop : Stop) :
    ∃ F' : FileSt,
      (decodeSpec P o .full g (bs ++ tail) stop).1.success ∧
      (decodeSpec P o .full g (bs ++ tail) stop).1.st.file = some F' ∧
      F'.fileId = wire1 P f.fileId ∧ F'.creator = f.creator.map (wire1 P) ∧ F'.tscorr = f.tscorr.map (wire1 P) ∧
      F'.cidx = f.cidx ∧ F'.fieldDescs = [] ∧ F'.devIds = [] ∧
      (∀ i, f.cidx = some i → F'.slots = (wireFile P (P.containers.getD i default) f).slots) ∧
      (decodeSpec P o .full g (bs ++ tail) stop).1.st.glob = g ∧
      ((F'.hdr.size = headerSizeNoCRC ∨ F'.hdr.size = headerSizeCRC) ∧ F'.hdr.dtype = fitTag ∧ F'.hdr.proto = f.hdr.proto) := by
  obtain ⟨i, F', hci, hsucc, hfile, r1, r2, r3, r4, r5, r6, r7, r8, rH⟩ :=
    decode_encode_content P hwf hcont arch f f' bs h hdom hsmall hsh o g tail stop
  have hshw := (hsh i hci).wire P
  have hmap : ((P.containers.getD i default).slots.zip (wireFile P (P.containers.getD i default) f).slots).map slotMsgs =
      (wireFile P (P.containers.getD i default) f).slots := by
    refine (List.map_congr_left fun z hz => ?_).trans (List.map_snd_zip (by rw [hshw.len]; exact Nat.le_refl _))
    unfold slotMsgs
    split
    · rfl
    · rename_i hm
      exact List.take_of_length_le (wireFile_pointer_le_one P (hone i hci) z hz (by simpa using hm))
  rw [hmap, expandSlots_id P g _ (wireFile_plain P (hsh i hci) hnx)] at r7 r8
  refine ⟨F', hsucc, hfile, r1, r2, r3, r4, r5, r6, ?_, r8, rH⟩
  intro j hj
  cases hci.symm.trans hj
  exact r7

end Fit
