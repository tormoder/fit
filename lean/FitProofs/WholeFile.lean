import FitProofs.Framing
import FitProofs.Frame
import FitProofs.ListLemmas
import FitProofs.HdrKind
import FitProofs.Untouched
/-
  Whole-file framing: header, records and file CRC as a FIT writer lays them out
  (`frameBytesK`), decoded by the byte-level decoder, against the item machine (`runItems`).
-/
namespace Fit
open Fit.Crc

/-- the decoder state after `headerCheck` has accepted the header of a frame; the moduli are the header fields' widths -/
def afterHeader (k : HdrKind) (g : Globals) (proto profile len : Nat) : DecSt :=
  { DecSt.init g with
    hdr := { size := k.size, proto := proto, profile := profile % 65536, dataSize := len % 4294967296, dtype := fitTag,
             crc := match k with
               | .withCrc => (checksum (hdr12 .withCrc proto profile len)).toNat
               | _ => 0 },
    crc := checksum (frameHdr k proto profile len) }

theorem afterHeader_crc {k : HdrKind} {g : Globals} {proto profile len : Nat} :
    (afterHeader k g proto profile len).crc = checksum (frameHdr k proto profile len) := by
  unfold afterHeader
  with_reducible rfl

theorem afterHeader_dataSize {k : HdrKind} {g : Globals} {proto profile L : Nat} (hlen : L < 4294967296) :
    (afterHeader k g proto profile L).hdr.dataSize = L := by
  unfold afterHeader
  exact Nat.mod_eq_of_lt hlen

/-- the header bytes after the size byte, which `decodeHeader` reads on its own -/
def hdrTail (k : HdrKind) (proto profile len : Nat) : Bytes :=
  [u8 proto] ++ natLE 2 profile ++ natLE 4 len ++ fitTag ++ hdrExtra k proto profile len

theorem hdrTail_length (k : HdrKind) (proto profile len : Nat) : (hdrTail k proto profile len).length = k.size - 1 := by
  cases k <;> simp [hdrTail, hdrExtra, natLE_length, fitTag, HdrKind.size]

theorem frameHdr_split (k : HdrKind) (proto profile len : Nat) :
    frameHdr k proto profile len = u8 k.size :: hdrTail k proto profile len := by
  simp [frameHdr, hdr12, hdrTail]

theorem headerCheck_frame (k : HdrKind) (g : Globals) (proto profile len : Nat) (hp : proto < 256)
    (hp2 : proto / 16 ≤ protoMajorMax) :
    headerCheck { DecSt.init g with hdr := { (DecSt.init g).hdr with size := k.size } } [u8 k.size]
      (hdrTail k proto profile len) = .ok (afterHeader k g proto profile len) := by
  have hcrc : update (update (DecSt.init g).crc [u8 k.size]) (hdrTail k proto profile len) =
      checksum (frameHdr k proto profile len) := by
    rw [← update_append, frameHdr_split]
    rfl
  obtain ⟨a1, a2, hA⟩ : ∃ a1 a2, natLE 2 profile = [a1, a2] := ⟨_, _, rfl⟩
  obtain ⟨b1, b2, b3, b4, hB⟩ : ∃ b1 b2 b3 b4, natLE 4 len = [b1, b2, b3, b4] := ⟨_, _, _, _, rfl⟩
  have hpA : leNat [a1, a2] = profile % 65536 := by rw [← hA, leNat_natLE]
  have hpB : leNat [b1, b2, b3, b4] = len % 4294967296 := by rw [← hB, leNat_natLE]
  have hpt := u8_toNat_lt proto hp
  -- the eleven bytes all three layouts share, then the CRC field (if any)
  have htail : hdrTail k proto profile len =
      u8 proto :: a1 :: a2 :: b1 :: b2 :: b3 :: b4 :: 0x2E :: 0x46 :: 0x49 :: 0x54 :: hdrExtra k proto profile len := by
    simp [hdrTail, hA, hB, fitTag]
  refine headerCheck_ok_iff.2 ?_
  rw [hcrc, htail]
  simp only [List.drop_succ_cons, List.drop_zero, List.take_succ_cons, List.take_zero, List.headD_cons, hpt, hpA, hpB]
  refine ⟨hp2, rfl, ?_, ?_⟩
  · -- no CRC field, a zero CRC field, or the CRC of the first twelve bytes
    cases k with
    | noCrc => exact .inl rfl
    | zeroCrc => exact .inr (.inl rfl)
    | withCrc =>
      refine .inr (.inr ?_)
      unfold frameHdr hdrExtra
      exact Crc.residue_from 0#16 _
  · unfold afterHeader
    cases k with
    | noCrc => rfl
    | zeroCrc => rfl
    | withCrc =>
      simp only [hdrExtra, List.take_succ_cons, List.take_zero, lo_hi_leNat]
      rfl

theorem parseFileIdMsg_runs {P : Profile} {cont : DecSt → DP}
    {d0 : DefMsg} {b0 : Bool} (hwf0 : DefnWF d0 b0) (hg : d0.global = mnFileId) (hkn : P.known mnFileId = true)
    {fs dev : List Bytes} {st st1 st2 : DecSt}
    (h1 : stepItem P st (.defn d0 b0) = .ok st1)
    (h2 : stepItem P st1 (.data d0.localT fs dev) = .ok st2)
    (hok2 : ItemOK st1 (.data d0.localT fs dev)) (hdefs : d0.localT < st.defs.length) :
    Runs (parseFileIdMsg P st cont) (serializeItem (.defn d0 b0) ++ serializeItem (.data d0.localT fs dev))
      (cont st2) := by
  obtain ⟨hb16, hdevb, _, hdb, hlt⟩ := defHeader_bits d0 b0 hwf0.localT
  obtain ⟨hginv, hall, hst1⟩ := stepItem_defn.1 h1
  obtain ⟨_, _, hm, hu⟩ := data_header_bits d0.localT hok2.1
  obtain ⟨dm, m, stA, m2, stB, hp, hsf, ha⟩ := stepData_ok h2
  have e2 : (if b0 = true then d0 else { d0 with dev := [] }).global = mnFileId := by cases b0 <;> exact hg
  have e3 := DefMsg.stored_localT d0 b0
  unfold parseFileIdMsg
  rw [serializeItem_defn, List.append_assoc]
  -- the definition record
  refine Goes.rd [u8 (defHeader d0 b0)] rfl ?_
  dsimp only
  rw [show ([u8 (defHeader d0 b0)].headD 0).toNat = defHeader d0 b0 from u8_toNat_lt _ hlt, hdb]
  simp only [Bool.not_true, Bool.false_eq_true, ↓reduceIte]
  refine Runs.andThen (parseDefinition_runs_ok P (defHeader d0 b0) _ d0 b0 hwf0 hb16 hdevb (st.eat [u8 (defHeader d0 b0)]) hginv hall) ?_
  rw [if_neg (by rw [e2]; exact fun h => h rfl), DecSt.eat_eat, e3]
  have est : ({ st.eat ([u8 (defHeader d0 b0)] ++ defBody d0 b0) with
      defs := setAt (st.eat ([u8 (defHeader d0 b0)] ++ defBody d0 b0)).defs d0.localT
        (some (if b0 = true then d0 else { d0 with dev := [] })) } : DecSt) = st1 := by
    rw [hst1, serializeItem_defn]; rfl
  rw [est]
  -- the data record
  refine Goes.rd [u8 d0.localT] rfl ?_
  rw [show ([u8 d0.localT].headD 0).toNat = d0.localT from hu]
  refine (parseData_runs_ok hp hsf hok2.data_fit).cast ?_
  -- its message is a file_id message
  have hspec := dataPre_go hp
  have hdm : dm = (if b0 = true then d0 else { d0 with dev := [] }) := by
    have hlook := hspec.look
    simp only [Bool.false_eq_true, ↓reduceIte, DecSt.eat, hm] at hlook
    rw [hst1] at hlook
    rw [getD_setAt_self _ _ _ _ hdefs] at hlook
    cases hlook; rfl
  have hdg : dm.global = mnFileId := by rw [hdm]; exact e2
  obtain ⟨msg, rfl, hnum⟩ := hspec.msg (by rw [hdg]; exact hkn)
  obtain ⟨msg2, rfl, hnum2⟩ := stepFields_num hsf
  have hfid : ¬ msg2.num ≠ mnFileId := fun h => h (by rw [hnum2, hnum, hdg])
  simp only [if_neg hfid, ha]

theorem stepItems_hdr (P : Profile) (st st' : DecSt) (its : List Item) (h : stepItems P st its = .ok st') :
    st'.hdr = st.hdr :=
  (stepItems_spec h).hdr

theorem runItems_fhdr (P : Profile) (hdr : Header) (g : Globals) (its : List Item) (crc0 : BitVec 16) (st' : DecSt)
    (h : runItems P hdr g its crc0 = .ok st') : st'.fhdr = some hdr :=
  (runItems_spec h).fhdr

theorem serialize_length_ge (its : List Item) : its.length ≤ (serialize its).length := by
  induction its with
  | nil => simp [serialize]
  | cons it its ih =>
    rw [serialize_cons, List.length_append, List.length_cons]
    have := serializeItem_pos it
    omega

/-- the start of the record phase on a frame: `(afterHeader …).recStart P`, which is also where `runItems` starts -/
def recState0 (P : Profile) (k : HdrKind) (g : Globals) (proto profile len : Nat) : DecSt :=
  { afterHeader k g proto profile len with
    file := some { hdr := (afterHeader k g proto profile len).hdr, fileId := zeroFileId P }, unkInit := true }

theorem recStart_afterHeader (P : Profile) (k : HdrKind) (g : Globals) (proto profile len : Nat) :
    (afterHeader k g proto profile len).recStart P = recState0 P k g proto profile len := by
  unfold recState0 DecSt.recStart DecSt.opened
  with_reducible rfl

theorem afterHeader_eta (k : HdrKind) (g : Globals) (proto profile len : Nat) :
    ({ DecSt.init g with hdr := (afterHeader k g proto profile len).hdr, crc := (afterHeader k g proto profile len).crc } : DecSt) =
      afterHeader k g proto profile len := by
  unfold afterHeader
  with_reducible rfl

theorem serialize_cons_cons (a b : Item) (its : List Item) :
    serialize (a :: b :: its) = (serializeItem a ++ serializeItem b) ++ serialize its := by
  rw [serialize_cons, serialize_cons, List.append_assoc]

theorem serialize_cons_cons_length (a b : Item) (its : List Item) :
    (serialize (a :: b :: its)).length = (serializeItem a ++ serializeItem b).length + (serialize its).length := by
  rw [serialize_cons_cons, List.length_append]

/-- Two lists: `done` is what the record machine is run on, `rest` what is known to fit.  The whole-file theorem
    takes them equal; for a cut file `rest` is `done` followed by the cut record and what the writer meant to follow. -/
theorem recordsProg_start {P : Profile} {k : HdrKind} {g : Globals} {proto profile L : Nat} {d0 : DefMsg} {b0 : Bool}
    {fs dev : List Bytes} {done rest : List Item} {st' : DecSt}
    (hwf0 : DefnWF d0 b0) (hg : d0.global = mnFileId) (hkn : P.known mnFileId = true) (hlen : L < 4294967296)
    (hfit : ItemsFitD P (List.replicate 16 none) (.defn d0 b0 :: .data d0.localT fs dev :: rest))
    (hrun : runItems P (afterHeader k g proto profile L).hdr g (.defn d0 b0 :: .data d0.localT fs dev :: done)
      (afterHeader k g proto profile L).crc = .ok st') :
    ∃ st2, Runs (recordsProg P .full (recState0 P k g proto profile L))
        (serializeItem (.defn d0 b0) ++ serializeItem (.data d0.localT fs dev))
        (decodeFileData P L (L + 1) st2 fun st => .done st) ∧
      stepItems P st2 done = .ok st' ∧ ItemsFit P st2 rest ∧
      st2.n = (serializeItem (.defn d0 b0) ++ serializeItem (.data d0.localT fs dev)).length := by
  obtain ⟨d, r, rest', st1, st2, f, f', e, h1, h2, hf, hinit, h3⟩ := runItems_ok hrun
  cases e
  rw [afterHeader_eta, recStart_afterHeader] at h1
  have s1 := stepItem_spec h1
  have s2 := stepItem_spec h2
  have hok2 : ItemOK st1 (.data d0.localT fs dev) := ItemOKD.toOK (by rw [s1.defs]; exact hfit.2.1)
  have hds : st2.hdr.dataSize = L := by
    rw [s2.hdr, s1.hdr]
    show (afterHeader k g proto profile L).hdr.dataSize = L
    exact afterHeader_dataSize hlen
  refine ⟨{ st2 with file := some f' }, ?_, h3, ItemsFitD.toFit ?_, ((s1.trans s2).ate ⟨hfit.1.toOK, hok2⟩).n.trans (Nat.zero_add _)⟩
  · unfold recordsProg
    refine (parseFileIdMsg_runs hwf0 hg hkn h1 h2 hok2 hwf0.localT).cast ?_
    simp only [show ¬ (Mode.full = Mode.fileIdOnly) by decide, ↓reduceIte, hf, hinit, hds]
  · show ItemsFitD P st2.defs rest
    rw [s2.defs, s1.defs]
    exact hfit.2.2

theorem frameBytesK_split (k : HdrKind) (proto profile : Nat) (recs : Bytes) :
    frameBytesK k proto profile recs =
      u8 k.size :: (hdrTail k proto profile recs.length ++ (recs ++
        [lo (checksum (frameHdr k proto profile recs.length ++ recs)), hi (checksum (frameHdr k proto profile recs.length ++ recs))])) := by
  unfold frameBytesK
  generalize checksum (frameHdr k proto profile recs.length ++ recs) = fc
  rw [frameHdr_split]
  simp

theorem frame_headerAt (k : HdrKind) (g : Globals) (proto profile L : Nat) (R : Bytes) (stop : Stop)
    (hp : proto < 256) (hp2 : proto / 16 ≤ protoMajorMax) :
    HeaderAt g ⟨u8 k.size :: (hdrTail k proto profile L ++ R), stop, 0, 0⟩ k.size (afterHeader k g proto profile L) ∧
    (⟨u8 k.size :: (hdrTail k proto profile L ++ R), stop, 0, 0⟩ : SpecSt).adv k.size = ⟨R, stop, k.size, 0⟩ := by
  have h13 := hdrTail_length k proto profile L
  have hsz := k.size_cases
  have hu : (u8 k.size).toNat = k.size := by cases k <;> rfl
  have e2 : ((u8 k.size :: (hdrTail k proto profile L ++ R)).drop 1).take (k.size - 1) = hdrTail k proto profile L :=
    List.take_left' h13
  have hadv := SpecSt.adv_of_rest (s := ⟨u8 k.size :: (hdrTail k proto profile L ++ R), stop, 0, 0⟩)
    (bs := u8 k.size :: hdrTail k proto profile L) (tail := R) rfl
  rw [List.length_cons, h13, show k.size - 1 + 1 = k.size by omega] at hadv
  refine ⟨⟨hsz, ?_, hu.symm, ?_⟩, hadv.trans (by rw [Nat.zero_add])⟩
  · simp only [List.length_cons, List.length_append, h13]; omega
  · show headerCheck _ [u8 k.size] (((u8 k.size :: (hdrTail k proto profile L ++ R)).drop 1).take (k.size - 1)) = _
    rw [e2]
    exact headerCheck_frame k g proto profile L hp hp2

/-- the left side is what the anatomy lemmas of `Frame.lean` ask for -/
theorem frame_records (P : Profile) (m : Mode) (k : HdrKind) (g : Globals) (proto profile L : Nat) (R : Bytes) (stop : Stop)
    (hp : proto < 256) (hp2 : proto / 16 ≤ protoMajorMax) (hlen : L < 4294967296) :
    runSpecD (afterHeader k g proto profile L).hdr.dataSize
        (recordsProg P m ((afterHeader k g proto profile L).recStart P)) 0
        (((⟨u8 k.size :: (hdrTail k proto profile L ++ R), stop, 0, 0⟩ : SpecSt).adv k.size).framed
          (0 + k.size + (afterHeader k g proto profile L).hdr.dataSize)) =
      runSpecD L (recordsProg P m (recState0 P k g proto profile L)) 0 ⟨R, stop, k.size, k.size + L⟩ := by
  rw [(frame_headerAt k g proto profile L R stop hp hp2).2, afterHeader_dataSize hlen, recStart_afterHeader, Nat.zero_add]
  rfl

theorem frameBytesK_append (k : HdrKind) (proto profile : Nat) (recs tail : Bytes) :
    frameBytesK k proto profile recs ++ tail =
      u8 k.size :: (hdrTail k proto profile recs.length ++ (recs ++
        ([lo (checksum (frameHdr k proto profile recs.length ++ recs)),
          hi (checksum (frameHdr k proto profile recs.length ++ recs))] ++ tail))) := by
  rw [frameBytesK_split]
  simp only [List.cons_append, List.append_assoc]

/-- **Whole-file framing.** Lay out any list of items — starting with a file_id definition and
    its data record — as a FIT writer does (a header of any of the three kinds, records, file CRC). If the item
    machine accepts the items (`runItems … = .ok st'`), then `Decode`, on those bytes followed by
    anything, succeeds and returns exactly the item machine's state (its File, definitions,
    timestamp reference, counters), with the file CRC recorded. -/
theorem decode_frame_ok (P : Profile) (o : Opts) (k : HdrKind) (g : Globals) (proto profile : Nat)
    (d0 : DefMsg) (b0 : Bool) (fs dev : List Bytes) (rest : List Item) (tail : Bytes) (stop : Stop) (st' : DecSt)
    (hp : proto < 256) (hp2 : proto / 16 ≤ protoMajorMax)
    (hwf0 : DefnWF d0 b0) (hg : d0.global = mnFileId) (hkn : P.known mnFileId = true)
    (hlen : (serialize (.defn d0 b0 :: .data d0.localT fs dev :: rest)).length < 4294967296)
    (hfit : ItemsFitD P (List.replicate 16 none) (.defn d0 b0 :: .data d0.localT fs dev :: rest))
    (hrun : runItems P (afterHeader k g proto profile (serialize (.defn d0 b0 :: .data d0.localT fs dev :: rest)).length).hdr g
      (.defn d0 b0 :: .data d0.localT fs dev :: rest)
      (afterHeader k g proto profile (serialize (.defn d0 b0 :: .data d0.localT fs dev :: rest)).length).crc = .ok st') :
    (decodeSpec P o .full g
      (frameBytesK k proto profile (serialize (.defn d0 b0 :: .data d0.localT fs dev :: rest)) ++ tail) stop).1 =
      finalize o (okOut { st' with
        crc := 0#16,
        file := st'.file.map fun f => { f with crc := (checksum (frameHdr k proto profile
          (serialize (.defn d0 b0 :: .data d0.localT fs dev :: rest)).length ++
          serialize (.defn d0 b0 :: .data d0.localT fs dev :: rest))).toNat } }) := by
  generalize hL : (serialize (.defn d0 b0 :: .data d0.localT fs dev :: rest)).length = L at *
  obtain ⟨st2, hrec, hrun', hfit3, hn2⟩ := recordsProg_start hwf0 hg hkn hlen hfit hrun
  have hser := serialize_cons_cons (.defn d0 b0) (.data d0.localT fs dev) rest
  have hLsum : L = (serializeItem (.defn d0 b0) ++ serializeItem (.data d0.localT fs dev)).length +
      (serialize rest).length := hL ▸ serialize_cons_cons_length _ _ rest
  -- the record machine's last state has all the record bytes in its checksum
  have hcrc : st'.crc = checksum (frameHdr k proto profile L ++
      serialize (.defn d0 b0 :: .data d0.localT fs dev :: rest)) := by
    rw [((runItems_spec hrun).ate hfit).crc]
    show update (afterHeader k g proto profile L).crc _ = _
    rw [afterHeader_crc, checksum, checksum, update_append]
  rw [frameBytesK_append, hL]
  generalize checksum (frameHdr k proto profile L ++ serialize (.defn d0 b0 :: .data d0.localT fs dev :: rest)) = fc at hcrc ⊢
  -- the data phase; fuel `L + 1` suffices: every record has a byte (`serialize_length_ge`), the guard ends the loop
  have hD : runSpecD L (recordsProg P .full (recState0 P k g proto profile L)) 0
      ⟨serialize (.defn d0 b0 :: .data d0.localT fs dev :: rest) ++ ([lo fc, hi fc] ++ tail), stop, k.size, k.size + L⟩ =
      (.inr st', L, ⟨[lo fc, hi fc] ++ tail, stop, k.size + L, k.size + L⟩) := by
    rw [hrec L 0 _ (serialize rest ++ ([lo fc, hi fc] ++ tail)) (by rw [hser, List.append_assoc]) (by omega),
      show L + 1 = (L + 1 - rest.length) + rest.length by have := serialize_length_ge rest; omega, Nat.zero_add]
    dsimp only
    have key := run_items P L (fun st => DProg.done st) rest (L + 1 - rest.length) st2 _
      ⟨serialize rest ++ ([lo fc, hi fc] ++ tail), stop,
        k.size + (serializeItem (.defn d0 b0) ++ serializeItem (.data d0.localT fs dev)).length, k.size + L⟩
      _ hfit3 rfl (by omega) hn2
    rw [hrun'] at key
    rw [key.1, decodeFileData_done P L _ st' _ (by omega)]
    simp only [runSpecD]
    rw [← hLsum, Nat.add_assoc k.size, ← hLsum]
  rw [decodeSpec_eq, decodeProg_full (frame_headerAt k g proto profile L _ stop hp hp2).1
    ((frame_records P .full k g proto profile L _ stop hp hp2 hlen).trans hD)]
  dsimp only [Sum.elim]
  rw [afterHeader_dataSize hlen, if_pos rfl, checkCRC_run,
    if_pos (by simp only [List.length_append, List.length_cons, List.length_nil]; omega)]
  have hzero : update st'.crc [lo fc, hi fc] = 0#16 := by rw [hcrc]; exact update_lo_hi fc
  simp only [List.cons_append, List.nil_append, List.take_succ_cons, List.take_zero, hzero, ↓reduceIte, lo_hi_leNat]

/-- `DecodeHeader` on a frame: the header of the frame, and nothing of the records, whatever they are. -/
theorem decode_frame_header_only (P : Profile) (o : Opts) (k : HdrKind) (g : Globals) (proto profile : Nat)
    (recs tail : Bytes) (stop : Stop) (hp : proto < 256) (hp2 : proto / 16 ≤ protoMajorMax) :
    (decodeSpec P o .headerOnly g (frameBytesK k proto profile recs ++ tail) stop).1 =
      finalize o (okOut { afterHeader k g proto profile recs.length with
        file := some { hdr := (afterHeader k g proto profile recs.length).hdr, fileId := zeroFileId P } }) := by
  rw [decodeSpec_eq, frameBytesK_append, decodeProg_headerOnly (frame_headerAt k g proto profile _ _ stop hp hp2).1]
  rfl

/-- `DecodeHeaderAndFileID` on a frame: the header of the frame and the message of its first data
    record — the state the record machine reaches after the file_id definition and data record. -/
theorem decode_frame_fileid_only (P : Profile) (o : Opts) (k : HdrKind) (g : Globals) (proto profile : Nat)
    (d0 : DefMsg) (b0 : Bool) (fs dev : List Bytes) (rest : List Item) (tail : Bytes) (stop : Stop) (st1 st2 : DecSt)
    (hp : proto < 256) (hp2 : proto / 16 ≤ protoMajorMax)
    (hwf0 : DefnWF d0 b0) (hg : d0.global = mnFileId) (hkn : P.known mnFileId = true)
    (hlen : (serialize (.defn d0 b0 :: .data d0.localT fs dev :: rest)).length < 4294967296)
    (hfit : ItemsFitD P (List.replicate 16 none) (.defn d0 b0 :: .data d0.localT fs dev :: rest))
    (h1 : stepItem P (recState0 P k g proto profile (serialize (.defn d0 b0 :: .data d0.localT fs dev :: rest)).length)
      (.defn d0 b0) = .ok st1)
    (h2 : stepItem P st1 (.data d0.localT fs dev) = .ok st2) :
    (decodeSpec P o .fileIdOnly g
      (frameBytesK k proto profile (serialize (.defn d0 b0 :: .data d0.localT fs dev :: rest)) ++ tail) stop).1 =
      finalize o (okOut st2) := by
  have hok2 : ItemOK st1 (.data d0.localT fs dev) := ItemOKD.toOK (by rw [(stepItem_spec h1).defs]; exact hfit.2.1)
  generalize hL : (serialize (.defn d0 b0 :: .data d0.localT fs dev :: rest)).length = L at *
  have hser := serialize_cons_cons (.defn d0 b0) (.data d0.localT fs dev) rest
  have hLsum : L = (serializeItem (.defn d0 b0) ++ serializeItem (.data d0.localT fs dev)).length +
      (serialize rest).length := hL ▸ serialize_cons_cons_length _ _ rest
  rw [frameBytesK_append, hL]
  generalize checksum (frameHdr k proto profile L ++ serialize (.defn d0 b0 :: .data d0.localT fs dev :: rest)) = fc
  rw [decodeSpec_eq, decodeProg_fileIdOnly (frame_headerAt k g proto profile L _ stop hp hp2).1 (o := .inr st2)
    ((frame_records P .fileIdOnly k g proto profile L _ stop hp hp2 hlen).trans (by
    unfold recordsProg
    rw [parseFileIdMsg_runs hwf0 hg hkn h1 h2 hok2 hwf0.localT L 0 _ (serialize rest ++ ([lo fc, hi fc] ++ tail))
      (by rw [hser, List.append_assoc]) (by omega)]
    rfl))]
  rfl

end Fit
