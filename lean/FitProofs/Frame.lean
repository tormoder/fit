import FitModel.Decode
import FitProofs.Consume
import FitProofs.Crc
/-
  The runs of `decodeProg`: an accepted header at the front of the stream (`HeaderAt`), then what the
  mode does with the data area, then the trailer.  Exact consumption and the clean-end answer are read
  off these equations; `decodeProg_safe` (no failure handler answers success, hence: what follows a
  frame does not matter) looks at the program text instead.
-/
namespace Fit

def Outcome.success (o : Outcome) : Prop := o.err = none ∧ o.panic = false

instance (o : Outcome) : Decidable o.success := by unfold Outcome.success; exact inferInstance

/-- length of the frame the first bytes of a stream declare: header size + data size + 2 -/
def frameLen (data : Bytes) : Nat := (data.headD 0).toNat + leNat ((data.drop 4).take 4) + 2

theorem frameLen_take (full : Bytes) (k : Nat) (hk : 8 ≤ k) : frameLen (full.take k) = frameLen full := by
  unfold frameLen
  have e1 : (full.take k).headD 0 = full.headD 0 := by
    cases full with
    | nil => simp
    | cons x xs =>
      cases k with
      | zero => omega
      | succ k => rfl
  have e2 : ((full.take k).drop 4).take 4 = (full.drop 4).take 4 := by
    rw [List.drop_take, List.take_take]
    congr 1
    omega
  rw [e1, e2]

theorem finalize_eq (opts : Opts) (o : Outcome) :
    finalize opts o = { o with st := { o.st with file := o.st.file.map fun f => { f with
      unkF := if o.st.unkInit ∧ opts.unkFields then
          some ((sortBy (fun a b => a.1.1 < b.1.1 ∨ (a.1.1 = b.1.1 ∧ a.1.2 < b.1.2)) o.st.unkF).map fun ((m, n), c) => (m, n, c))
        else f.unkF,
      unkM := if o.st.unkInit ∧ opts.unkMsgs then some (sortBy (fun a b => a.1 < b.1) o.st.unkM) else f.unkM } } } := by
  unfold finalize
  cases o.st.unkInit
  · exact congrArg (fun x => { o with st := { o.st with file := x } }) (Option.map_id' (x := o.st.file)).symm
  · cases opts.unkFields <;> cases opts.unkMsgs <;> rfl

/-- what `finalize` leaves alone -/
def FileSt.sameContent (a b : FileSt) : Prop :=
  a.hdr = b.hdr ∧ a.crc = b.crc ∧ a.fileId = b.fileId ∧ a.creator = b.creator ∧ a.tscorr = b.tscorr ∧
  a.fieldDescs = b.fieldDescs ∧ a.devIds = b.devIds ∧ a.cidx = b.cidx ∧ a.slots = b.slots

structure Finalized (o o' : Outcome) : Prop where
  err : o'.err = o.err
  panic : o'.panic = o.panic
  cleanEOF : o'.cleanEOF = o.cleanEOF
  hdr : o'.st.hdr = o.st.hdr
  glob : o'.st.glob = o.st.glob
  unkM : o'.st.unkM = o.st.unkM
  unkF : o'.st.unkF = o.st.unkF
  isSome : o'.st.file.isSome = o.st.file.isSome
  fhdr : o'.st.file.map (·.hdr) = o.st.file.map (·.hdr)
  fileId : o'.st.file.map (·.fileId) = o.st.file.map (·.fileId)
  content : ∀ F, o.st.file = some F → ∃ F', o'.st.file = some F' ∧ F'.sameContent F

theorem finalize_keeps (opts : Opts) (o : Outcome) : Finalized o (finalize opts o) := by
  rw [finalize_eq]
  exact ⟨rfl, rfl, rfl, rfl, rfl, rfl, rfl, Option.isSome_map, Option.map_map .., Option.map_map .., fun F h => by
    rw [h]; exact ⟨_, rfl, rfl, rfl, rfl, rfl, rfl, rfl, rfl, rfl, rfl⟩⟩

theorem finalize_success (o : Opts) (out : Outcome) : (finalize o out).success ↔ out.success := by
  unfold Outcome.success
  rw [(finalize_keeps o out).err, (finalize_keeps o out).panic]

theorem finalize_okOut_success (o : Opts) (st : DecSt) : (finalize o (okOut st)).success :=
  (finalize_success o _).mpr ⟨rfl, rfl⟩

theorem decode_eq (P : Profile) (o : Opts) (m : Mode) (g : Globals) (r : Reader) :
    decode P o m g r = (finalize o (runBuffered (decodeProg P m g) r).1, (runBuffered (decodeProg P m g) r).2) := rfl

theorem decodeSpec_eq (P : Profile) (o : Opts) (m : Mode) (g : Globals) (d : Bytes) (stop : Stop) :
    decodeSpec P o m g d stop = (finalize o (runSpec (decodeProg P m g) { rest := d, stop := stop, taken := 0 }).1,
      (runSpec (decodeProg P m g) { rest := d, stop := stop, taken := 0 }).2) := rfl

theorem decodeSpec_success {P : Profile} {o : Opts} {m : Mode} {g : Globals} {d : Bytes} {stop : Stop} :
    (decodeSpec P o m g d stop).1.success ↔ (runSpec (decodeProg P m g) { rest := d, stop := stop, taken := 0 }).1.success :=
  finalize_success o _

theorem fail_not_success (st : DecSt) (c : ErrClass) : ¬ (fail st c).success := fun h => nomatch h.1

theorem panicOut_not_success (st : DecSt) : ¬ (panicOut st).success := fun h => nomatch h.2

theorem ErrExit.toOutcome_eq (e : ErrExit) : e.toOutcome = { err := e.err, panic := e.err.isNone, st := e.st } := by
  obtain ⟨err, st⟩ := e
  cases err <;> rfl

theorem ErrExit.toOutcome_not_success (e : ErrExit) : ¬ e.toOutcome.success := by
  rw [e.toOutcome_eq]
  intro ⟨h1, h2⟩
  rw [show e.err = none from h1] at h2
  cases h2

theorem ErrExit.toOutcome_no_panic (e : ErrExit) (h : e.err.isSome = true) : e.toOutcome.panic = false := by
  rw [e.toOutcome_eq]
  cases he : e.err with
  | none => rw [he] at h; cases h
  | some c => rfl

theorem headerCheck_ok_iff {st st' : DecSt} {sb tmp : Bytes} :
    headerCheck st sb tmp = .ok st' ↔
      (tmp.headD 0).toNat / 16 ≤ protoMajorMax ∧ (tmp.drop 7).take 4 = fitTag ∧
      ((sb.headD 0).toNat = headerSizeNoCRC ∨ leNat ((tmp.drop 11).take 2) = 0 ∨
        Crc.update (Crc.update st.crc sb) tmp = 0#16) ∧
      st' = { st with
        hdr := { st.hdr with proto := (tmp.headD 0).toNat, profile := leNat ((tmp.drop 1).take 2),
                             dataSize := leNat ((tmp.drop 3).take 4), dtype := (tmp.drop 7).take 4,
                             crc := if (sb.headD 0).toNat = headerSizeNoCRC then st.hdr.crc else leNat ((tmp.drop 11).take 2) },
        crc := Crc.update (Crc.update st.crc sb) tmp } := by
  unfold headerCheck
  dsimp only
  by_cases hp : (tmp.headD 0).toNat / 16 > protoMajorMax
  · rw [if_pos hp]; exact ⟨(fun h => nomatch h), fun h => absurd h.1 (Nat.not_le_of_gt hp)⟩
  rw [if_neg hp]
  by_cases ht : (tmp.drop 7).take 4 = fitTag
  · rw [if_neg (not_not_intro ht)]
    by_cases hs : (sb.headD 0).toNat = headerSizeNoCRC
    · rw [if_pos hs, if_pos hs]
      exact ⟨fun h => ⟨Nat.le_of_not_gt hp, ht, .inl hs, (Except.ok.inj h).symm⟩, fun h => congrArg _ h.2.2.2.symm⟩
    · rw [if_neg hs, if_neg hs]
      by_cases h0 : leNat ((tmp.drop 11).take 2) = 0
      · rw [if_pos h0]
        exact ⟨fun h => ⟨Nat.le_of_not_gt hp, ht, .inr (.inl h0), (Except.ok.inj h).symm⟩, fun h => congrArg _ h.2.2.2.symm⟩
      · rw [if_neg h0]
        by_cases hc : Crc.update (Crc.update st.crc sb) tmp = 0#16
        · rw [if_neg (not_not_intro hc)]
          exact ⟨fun h => ⟨Nat.le_of_not_gt hp, ht, .inr (.inr hc), (Except.ok.inj h).symm⟩, fun h => congrArg _ h.2.2.2.symm⟩
        · rw [if_pos hc]
          exact ⟨(fun h => nomatch h), fun h => (h.2.2.1.elim hs (·.elim h0 hc)).elim⟩
  · rw [if_pos ht]; exact ⟨(fun h => nomatch h), fun h => absurd h.2.1 ht⟩

/-- what `decodeHeader` accepts and `Encode` needs of a header: 12 or 14 bytes, the ".FIT" tag, a
    protocol version that fits a byte and is supported -/
def HdrLegal (h : Header) : Prop :=
  (h.size = headerSizeNoCRC ∨ h.size = headerSizeCRC) ∧ h.dtype = fitTag ∧ h.proto < 256 ∧ h.proto / 16 ≤ protoMajorMax

theorem headerCheck_legal (st st' : DecSt) (sb tmp : Bytes) (size : Nat)
    (hsz : size = headerSizeNoCRC ∨ size = headerSizeCRC) (hst : st.hdr.size = size)
    (h : headerCheck st sb tmp = .ok st') : HdrLegal st'.hdr := by
  obtain ⟨hp, ht, _, rfl⟩ := headerCheck_ok_iff.1 h
  exact ⟨hst ▸ hsz, ht, (tmp.headD 0).toNat_lt, hp⟩

theorem decodeHeader_run (st : DecSt) (cont : DecSt → HP) (s : SpecSt) (size : Nat)
    (hsz : size = 12 ∨ size = 14) (hlen : size ≤ s.rest.length) (hsize : size = (s.rest.headD 0).toNat) :
    runSpec (decodeHeader st cont) s =
      match headerCheck { st with hdr := { st.hdr with size := size } } (s.rest.take 1) ((s.rest.drop 1).take (size - 1)) with
      | .ok st' => runSpec (cont st') (s.adv size)
      | .error (c, st') => (fail st' c, s.adv size) := by
  have h1 : 1 ≤ s.rest.length := by omega
  have hh : ((s.rest.take 1).headD 0).toNat = size := by
    rw [hsize]; cases hr : s.rest with
    | nil => rw [hr] at h1; cases h1
    | cons x xs => rfl
  have h2 : size - 1 ≤ (s.adv 1).rest.length := by rw [s.adv_rest, List.length_drop]; omega
  unfold decodeHeader
  rw [runSpec_readDirect, if_pos h1]
  dsimp only
  rw [hh, if_neg (by unfold headerSizeCRC headerSizeNoCRC; omega), runSpec_readDirect, if_pos h2,
    s.adv_adv, show 1 + (size - 1) = size by omega]
  split <;> rename_i heq <;> rw [s.adv_rest] at heq <;> rw [heq] <;> rfl

/-- `b` is the clean-end flag; `hcont` gets the run equation too, for `decodeProg_cases` to rewrite with -/
theorem runSpec_decodeHeader_cases (Q : Outcome → Prop) (st : DecSt) (cont : DecSt → HP) (s : SpecSt)
    (hfail : ∀ st2 c b, (b = true → s.rest = [] ∧ s.stop = .eof) → Q { fail st2 c with cleanEOF := b })
    (hcont : ∀ st' size, (size = 12 ∨ size = 14) → size ≤ s.rest.length → size = (s.rest.headD 0).toNat →
      headerCheck { st with hdr := { st.hdr with size := size } } (s.rest.take 1) ((s.rest.drop 1).take (size - 1)) = .ok st' →
      runSpec (decodeHeader st cont) s = runSpec (cont st') (s.adv size) → Q (runSpec (cont st') (s.adv size)).1) :
    Q (runSpec (decodeHeader st cont) s).1 := by
  by_cases h : ((s.rest.headD 0).toNat = 12 ∨ (s.rest.headD 0).toNat = 14) ∧ (s.rest.headD 0).toNat ≤ s.rest.length
  · have e := decodeHeader_run st cont s _ h.1 h.2 rfl
    cases hc : headerCheck { st with hdr := { st.hdr with size := (s.rest.headD 0).toNat } } (s.rest.take 1)
        ((s.rest.drop 1).take ((s.rest.headD 0).toNat - 1)) with
    | ok st' =>
      rw [hc] at e
      rw [e]
      exact hcont st' _ h.1 h.2 rfl hc e
    | error x =>
      rw [hc] at e
      rw [e]
      exact hfail _ _ false (fun h => nomatch h)
  · -- no byte, an illegal size byte, or fewer bytes than it says
    unfold decodeHeader
    rw [runSpec_readDirect]
    cases hr : s.rest with
    | nil =>
      rw [if_neg (by simp)]
      cases hst : s.stop
      · exact hfail _ _ true fun _ => ⟨hr, hst⟩
      · exact hfail _ _ false fun h => nomatch h
    | cons x xs =>
      rw [hr] at h
      rw [if_pos (by simp)]
      dsimp only [List.take_succ_cons, List.take_zero, List.headD_cons] at h ⊢
      split
      · exact hfail _ _ false fun h => nomatch h
      · rename_i hs
        rw [runSpec_readDirect, if_neg (by
          unfold headerSizeCRC headerSizeNoCRC at hs
          rw [s.adv_rest, hr, List.length_drop]
          simp only [List.length_cons] at h ⊢
          omega)]
        exact hfail _ _ false fun h => nomatch h

/-- the header phase alone, without stream positions -/
theorem decodeHeader_cases_size (Q : Outcome → Prop) (st : DecSt) (cont : DecSt → HP) (s : SpecSt)
    (hfail : ∀ st2 c b, Q { fail st2 c with cleanEOF := b })
    (hcont : ∀ st' s1 size sb tmp, (size = headerSizeNoCRC ∨ size = headerSizeCRC) →
      headerCheck { st with hdr := { st.hdr with size := size } } sb tmp = .ok st' →
      Q (runSpec (cont st') s1).1) :
    Q (runSpec (decodeHeader st cont) s).1 :=
  runSpec_decodeHeader_cases Q st cont s (fun st2 c b _ => hfail st2 c b) fun st' size hsz _ _ hc _ =>
    hcont st' _ size _ _ hsz hc

theorem checkCRC_run (st : DecSt) (s : SpecSt) :
    runSpecT (checkCRC st) s =
      if 2 ≤ s.rest.length then
        let st2 := { st with crc := Crc.update st.crc (s.rest.take 2),
                             file := st.file.map fun f => { f with crc := leNat (s.rest.take 2) } }
        (if Crc.update st.crc (s.rest.take 2) = 0#16 then okOut st2 else fail st2 .integrity, s.adv 2)
      else (fail st (match s.stop with | .eof => .ueof | .fault => .fault), s.adv s.rest.length) := by
  unfold checkCRC
  rw [runSpecT_readDirect]
  rfl

theorem checkCRC_success {st : DecSt} {s : SpecSt} (h : (runSpecT (checkCRC st) s).1.success) :
    2 ≤ s.rest.length ∧ Crc.update st.crc (s.rest.take 2) = 0#16 ∧ (runSpecT (checkCRC st) s).2 = s.adv 2 := by
  rw [checkCRC_run] at h ⊢
  split at h
  · rename_i h2
    refine ⟨h2, ?_, by rw [if_pos h2]⟩
    dsimp only at h
    split at h
    · assumption
    · exact absurd h (fail_not_success _ _)
  · exact absurd h (fail_not_success _ _)

/-- the state after `new(File)`: the File holds the header just read -/
def DecSt.opened (P : Profile) (st : DecSt) : DecSt :=
  { st with file := some { hdr := st.hdr, fileId := zeroFileId P } }

/-- `unkInit`: the deferred handlers for unknown items are registered (`finalize` will run them) -/
def DecSt.recStart (P : Profile) (st : DecSt) : DecSt := { st.opened P with unkInit := true }

structure HeaderAt (g : Globals) (s : SpecSt) (size : Nat) (st' : DecSt) : Prop where
  legal : size = 12 ∨ size = 14
  len : size ≤ s.rest.length
  head : size = (s.rest.headD 0).toNat
  check : headerCheck { DecSt.init g with hdr := { (DecSt.init g).hdr with size := size } } (s.rest.take 1)
    ((s.rest.drop 1).take (size - 1)) = .ok st'

theorem HeaderAt.run {g : Globals} {s : SpecSt} {size : Nat} {st' : DecSt} (h : HeaderAt g s size st')
    (cont : DecSt → HP) : runSpec (decodeHeader (DecSt.init g) cont) s = runSpec (cont st') (s.adv size) :=
  (decodeHeader_run _ cont s size h.legal h.len h.head).trans (by rw [h.check])

theorem HeaderAt.frame {g : Globals} {s : SpecSt} {size : Nat} {st' : DecSt} (h : HeaderAt g s size st') :
    frameLen s.rest = size + st'.hdr.dataSize + 2 := by
  obtain ⟨hsz, hlen, hhead, hc⟩ := h
  obtain ⟨_, _, _, rfl⟩ := headerCheck_ok_iff.1 hc
  show _ = size + leNat ((((s.rest.drop 1).take (size - 1)).drop 3).take 4) + 2
  rw [List.drop_take, List.drop_drop, List.take_take, show min 4 (size - 1 - 3) = 4 by omega, frameLen, ← hhead]

theorem HeaderAt.crc {g : Globals} {s : SpecSt} {size : Nat} {st' : DecSt} (h : HeaderAt g s size st') :
    st'.crc = Crc.update 0#16 (s.rest.take size) := by
  obtain ⟨hsz, hlen, hhead, hc⟩ := h
  obtain ⟨_, _, _, rfl⟩ := headerCheck_ok_iff.1 hc
  show Crc.update (Crc.update 0#16 (s.rest.take 1)) ((s.rest.drop 1).take (size - 1)) = _
  rw [← Crc.update_append, ← List.take_add, show 1 + (size - 1) = size by omega]

theorem HeaderAt.n {g : Globals} {s : SpecSt} {size : Nat} {st' : DecSt} (h : HeaderAt g s size st') : st'.n = 0 := by
  obtain ⟨_, _, _, rfl⟩ := headerCheck_ok_iff.1 h.check
  rfl

theorem HeaderAt.defs {g : Globals} {s : SpecSt} {size : Nat} {st' : DecSt} (h : HeaderAt g s size st') (i : Nat) :
    st'.defs.getD i none = none := by
  obtain ⟨_, _, _, rfl⟩ := headerCheck_ok_iff.1 h.check
  show (List.replicate 16 none).getD i none = none
  simp only [List.getD_eq_getElem?_getD, List.getElem?_replicate]
  split <;> rfl

/-- `hhdr` hands the goal back with an accepted header in hand: go on with the equation of the mode -/
theorem decodeProg_cases (Q : Outcome → Prop) (P : Profile) (m : Mode) (g : Globals) (s : SpecSt)
    (hfail : ∀ st2 c b, (b = true → s.rest = [] ∧ s.stop = .eof) → Q { fail st2 c with cleanEOF := b })
    (hhdr : ∀ size st', HeaderAt g s size st' → Q (runSpec (decodeProg P m g) s).1) :
    Q (runSpec (decodeProg P m g) s).1 := by
  have := hhdr
  unfold decodeProg at this ⊢
  exact runSpec_decodeHeader_cases Q _ _ s hfail fun st' size h1 h2 h3 hc e => e ▸ this size st' ⟨h1, h2, h3, hc⟩

theorem decodeProg_empty_eof (P : Profile) (m : Mode) (g : Globals) (s : SpecSt) (hr : s.rest = []) (hs : s.stop = .eof) :
    runSpec (decodeProg P m g) s = ({ fail (DecSt.init g) .ioerr with cleanEOF := true }, s) := by
  unfold decodeProg decodeHeader
  rw [runSpec_readDirect, hr, hs]
  rfl

theorem decodeProg_success_header {P : Profile} {m : Mode} {g : Globals} {s : SpecSt}
    (hs : (runSpec (decodeProg P m g) s).1.success) : ∃ size st', HeaderAt g s size st' := by
  revert hs
  exact decodeProg_cases (fun o => o.success → _) P m g s (fun _ _ _ _ h => nomatch h.1) fun size st' h _ => ⟨size, st', h⟩

section
variable {P : Profile} {g : Globals} {s : SpecSt} {size : Nat} {st' : DecSt}

theorem decodeProg_headerOnly (h : HeaderAt g s size st') :
    runSpec (decodeProg P .headerOnly g) s = (okOut (st'.opened P), s.adv size) := by
  unfold decodeProg
  rw [h.run]
  rfl

theorem decodeProg_crcOnly (h : HeaderAt g s size st') :
    runSpec (decodeProg P .crcOnly g) s =
      if st'.hdr.dataSize ≤ (s.adv size).rest.length then
        runSpecT (checkCRC { st'.opened P with crc := Crc.update st'.crc ((s.adv size).rest.take st'.hdr.dataSize) })
          ((s.adv (size + st'.hdr.dataSize)).framed (s.taken + size + st'.hdr.dataSize))
      else (fail (st'.opened P) (match s.stop with | .eof => .eof | .fault => .fault),
        (s.adv (size + (s.adv size).rest.length)).framed (s.taken + size + st'.hdr.dataSize)) := by
  unfold decodeProg
  rw [h.run]
  dsimp only
  rw [runSpec_copyAll, SpecSt.adv_adv, SpecSt.adv_adv]
  rfl

-- `o.elim`, not `match o`: the matcher would abstract `o` in `hr` too
theorem decodeProg_fileIdOnly (h : HeaderAt g s size st') {o : ErrExit ⊕ DecSt} {j : Nat} {s2 : SpecSt}
    (hr : runSpecD st'.hdr.dataSize (recordsProg P .fileIdOnly (st'.recStart P)) 0
      ((s.adv size).framed (s.taken + size + st'.hdr.dataSize)) = (o, j, s2)) :
    runSpec (decodeProg P .fileIdOnly g) s = (o.elim ErrExit.toOutcome okOut, s2) := by
  unfold decodeProg
  rw [h.run]
  dsimp only
  unfold DecSt.recStart DecSt.opened at hr
  rw [runSpec_dataOnly_def, SpecSt.adv_taken, hr]
  cases o <;> rfl

theorem decodeProg_full (h : HeaderAt g s size st') {o : ErrExit ⊕ DecSt} {j : Nat} {s2 : SpecSt}
    (hr : runSpecD st'.hdr.dataSize (recordsProg P .full (st'.recStart P)) 0
      ((s.adv size).framed (s.taken + size + st'.hdr.dataSize)) = (o, j, s2)) :
    runSpec (decodeProg P .full g) s =
      o.elim (fun e => (e.toOutcome, s2))
        fun x => if j = st'.hdr.dataSize then runSpecT (checkCRC x) s2 else (panicOut x, s2) := by
  unfold decodeProg
  rw [h.run]
  dsimp only
  unfold DecSt.recStart DecSt.opened at hr
  rw [runSpec_data_def, SpecSt.adv_taken, hr]
  cases o <;> rfl

theorem decodeProg_full_exit (h : HeaderAt g s size st') {e : ErrExit}
    (hr : (runSpecD st'.hdr.dataSize (recordsProg P .full (st'.recStart P)) 0
      ((s.adv size).framed (s.taken + size + st'.hdr.dataSize))).1 = .inl e) :
    (runSpec (decodeProg P .full g) s).1 = e.toOutcome := by
  rw [decodeProg_full h (Prod.ext hr (Prod.ext rfl rfl))]
  rfl

/-- `x` is the state that enters `checkCRC`; how it came about depends on the mode, hence the two
    guarded conjuncts (the callers that are generic in `m` use the rest) -/
theorem decodeProg_success {m : Mode} (hm : m = .full ∨ m = .crcOnly) (hs : (runSpec (decodeProg P m g) s).1.success) :
    ∃ size st' x, HeaderAt g s size st' ∧ size + st'.hdr.dataSize ≤ s.rest.length ∧
      runSpec (decodeProg P m g) s =
        runSpecT (checkCRC x) ((s.adv (size + st'.hdr.dataSize)).framed (s.taken + size + st'.hdr.dataSize)) ∧
      (m = .full → runSpecD st'.hdr.dataSize (recordsProg P .full (st'.recStart P)) 0
        ((s.adv size).framed (s.taken + size + st'.hdr.dataSize)) =
        (.inr x, st'.hdr.dataSize, (s.adv (size + st'.hdr.dataSize)).framed (s.taken + size + st'.hdr.dataSize))) ∧
      (m = .crcOnly →
        x = { st'.opened P with crc := Crc.update st'.crc ((s.adv size).rest.take st'.hdr.dataSize) }) := by
  obtain ⟨size, st', h⟩ := decodeProg_success_header hs
  have hlen := h.len
  rcases hm with rfl | rfl
  · obtain ⟨o, j, hj, _, e⟩ := runSpecD_shape st'.hdr.dataSize (recordsProg P .full (st'.recStart P)) 0
      ((s.adv size).framed (s.taken + size + st'.hdr.dataSize))
    rw [Nat.zero_add, SpecSt.framed_adv, SpecSt.adv_adv] at e
    rw [SpecSt.framed_rest, SpecSt.adv_rest, List.length_drop] at hj
    have er := decodeProg_full h e
    rw [er] at hs
    cases o with
    | inl y => exact absurd hs y.toOutcome_not_success
    | inr x =>
      simp only [Sum.elim_inr] at hs er
      by_cases hn : j = st'.hdr.dataSize
      · subst hn
        rw [if_pos rfl] at er
        exact ⟨size, st', x, h, by omega, er, fun _ => e, fun hm => nomatch hm⟩
      · rw [if_neg hn] at hs
        exact absurd hs (panicOut_not_success x)
  · have er := decodeProg_crcOnly (P := P) h
    rw [er] at hs
    by_cases hl : st'.hdr.dataSize ≤ (s.adv size).rest.length
    · rw [if_pos hl] at er
      rw [s.adv_rest, List.length_drop] at hl
      exact ⟨size, st', _, h, by omega, er, (fun hm => nomatch hm), fun _ => rfl⟩
    · rw [if_neg hl] at hs
      exact absurd hs (fail_not_success _ _)

end

theorem decodeProg_consumes_frame (P : Profile) (m : Mode) (hm : m = .full ∨ m = .crcOnly)
    (g : Globals) (s : SpecSt)
    (hs : (runSpec (decodeProg P m g) s).1.success) :
    frameLen s.rest ≤ s.rest.length ∧ 14 ≤ frameLen s.rest ∧
    (runSpec (decodeProg P m g) s).2 = (s.adv (frameLen s.rest)).framed (s.taken + frameLen s.rest - 2) := by
  obtain ⟨size, st', x, h, hl, e, _, _⟩ := decodeProg_success hm hs
  rw [e] at hs ⊢
  obtain ⟨h2, _, e2⟩ := checkCRC_success hs
  rw [SpecSt.framed_rest, SpecSt.adv_rest, List.length_drop] at h2
  have hsz := h.legal
  rw [h.frame, e2, SpecSt.framed_adv, SpecSt.adv_adv,
    show s.taken + (size + st'.hdr.dataSize + 2) - 2 = s.taken + size + st'.hdr.dataSize by omega]
  exact ⟨by omega, by omega, rfl⟩

theorem checkCRC_no_panic (st : DecSt) (s : SpecSt) : (runSpecT (checkCRC st) s).1.panic = false := by
  rw [checkCRC_run]
  split
  · dsimp only; split <;> rfl
  · rfl

theorem checkCRC_notClean (st : DecSt) (s : SpecSt) : (runSpecT (checkCRC st) s).1.cleanEOF = false := by
  rw [checkCRC_run]
  split
  · dsimp only; split <;> rfl
  · rfl

theorem ErrExit.toOutcome_notClean (e : ErrExit) : e.toOutcome.cleanEOF = false := by
  rw [e.toOutcome_eq]

/-- Only a stream that ends (with EOF) before the first header byte gives the "clean end" answer
    (`errReadSize`); any stream with at least one byte, and any reader error, does not. -/
theorem cleanEOF_only_on_empty (P : Profile) (m : Mode) (g : Globals) (s : SpecSt)
    (h : (runSpec (decodeProg P m g) s).1.cleanEOF = true) : s.rest = [] ∧ s.stop = .eof := by
  revert h
  refine decodeProg_cases (fun o => o.cleanEOF = true → _) P m g s (fun _ _ _ hb h => hb h) fun size st' hh h => ?_
  -- past an accepted header nothing sets the flag
  exfalso
  obtain ⟨o, j, _, _, e⟩ := runSpecD_shape st'.hdr.dataSize (recordsProg P m (st'.recStart P)) 0
    ((s.adv size).framed (s.taken + size + st'.hdr.dataSize))
  cases m with
  | full =>
    rw [decodeProg_full hh e] at h
    cases o with
    | inl y => exact Bool.noConfusion (y.toOutcome_notClean.symm.trans h)
    | inr x =>
      simp only [Sum.elim_inr] at h
      split at h
      · exact Bool.noConfusion ((checkCRC_notClean _ _).symm.trans h)
      · cases h
  | headerOnly =>
    rw [decodeProg_headerOnly hh] at h
    cases h
  | fileIdOnly =>
    rw [decodeProg_fileIdOnly hh e] at h
    cases o with
    | inl y => exact Bool.noConfusion (y.toOutcome_notClean.symm.trans h)
    | inr x => cases h
  | crcOnly =>
    rw [decodeProg_crcOnly hh] at h
    split at h
    · exact Bool.noConfusion ((checkCRC_notClean _ _).symm.trans h)
    · cases h

theorem checkCRC_safe (st : DecSt) : (checkCRC st).Safe Outcome.success :=
  ⟨fun _ _ => fail_not_success _ _, fun _ => trivial⟩

theorem decodeProg_safe (P : Profile) (m : Mode) (g : Globals) : (decodeProg P m g).Safe Outcome.success := by
  unfold decodeProg decodeHeader
  refine ⟨fun n s => ?_, fun sb => ?_⟩
  · cases s <;> exact fun h => nomatch h.1
  · dsimp only
    split
    · trivial
    · refine ⟨fun n s => fail_not_success _ _, fun tmp => ?_⟩
      dsimp only
      split
      · trivial
      · cases m with
        | full => exact ⟨ErrExit.toOutcome_not_success, panicOut_not_success, checkCRC_safe⟩
        | headerOnly => trivial
        | fileIdOnly => exact ErrExit.toOutcome_not_success
        | crcOnly => exact ⟨fun st => fail_not_success _ _, fun bs => checkCRC_safe _⟩

theorem decodeProg_extension (P : Profile) (m : Mode) (g : Globals) (s : SpecSt) (extra : Bytes)
    (h : (runSpec (decodeProg P m g) s).1.success) :
    runSpec (decodeProg P m g) (s.extend extra) =
      ((runSpec (decodeProg P m g) s).1, (runSpec (decodeProg P m g) s).2.extend extra) :=
  runSpec_extend _ (decodeProg_safe P m g) s extra h

end Fit
