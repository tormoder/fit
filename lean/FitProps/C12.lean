import FitModel.Items
import FitModel.Gen.Profile
import FitProofs.Framing
import FitProofs.FieldValue
/-!
  C12 — timestamps follow the FIT time rules, including compressed headers.

  `Val.t secs off loc` is the instant `FIT epoch + secs` shown in a zone of offset `off`
  (loc 0 = UTC, 1 = FITLOCAL); its wall-clock reading is `secs + off`.
  The theorems are about `tsAdvance` and `parseTimeStamp`, which the decoder model (`Decode.lean`) and the
  record machine (`Items.lean`) call for every compressed-timestamp header and every time field.
-/
namespace Fit.Props.C12
open Fit

/-- the rule of the FIT protocol: latest timestamp advanced to the next instant whose low five
    bits equal the offset (32-second rollover), modulo 2^32 -/
def tsSpec (ref off : Nat) : Nat :=
  (if off ≥ ref % 32 then ref - ref % 32 + off else ref - ref % 32 + off + 32) % 2 ^ 32

/-- the decoder keeps the low five bits of the reference in `lastOff` -/
def Inv (ts : TsRef) : Prop := ts.lastOff = ts.timestamp % 32

/-- the code adds the distance from the kept low five bits to the offset; the rule rounds up to the
    next instant that ends in the offset -/
theorem tsSpec_eq {ref off : Nat} (hoff : off < 32) : tsSpec ref off = tsAdvance ref (ref % 32) off := by
  unfold tsSpec tsAdvance
  congr 1
  split <;> omega

theorem tsSpec_mod {ref off : Nat} (hoff : off < 32) : tsSpec ref off % 32 = off := by
  rw [tsSpec_eq hoff, tsAdvance, Nat.mod_mod_of_dvd _ (by decide)]
  omega

/-- One compressed-timestamp header: the reference becomes `tsSpec reference offset`. -/
theorem compressed_rule (ts : TsRef) (off : Nat) (hoff : off < 32) (hi : Inv ts)
    (hlt : ts.timestamp < 2 ^ 32) :
    tsAdvance ts.timestamp ts.lastOff off = tsSpec ts.timestamp off := by
  rw [tsSpec_eq hoff, ← hi]

/-- … and the invariant is re-established, also when the addition wraps past 2^32, a
    multiple of 32. -/
theorem compressed_keeps_inv (ts : TsRef) (off : Nat) (hoff : off < 32) (hi : Inv ts)
    (hlt : ts.timestamp < 2 ^ 32) :
    Inv ⟨tsAdvance ts.timestamp ts.lastOff off, off⟩ := by
  rw [compressed_rule ts off hoff hi hlt]
  exact (tsSpec_mod hoff).symm

/-- The new reference is never earlier than the old one by the rule, and less than 32 s later
    (before reduction modulo 2^32). -/
theorem compressed_advances (ref off : Nat) (hoff : off < 32) (h : ref + 32 < 2 ^ 32) :
    ref ≤ tsSpec ref off ∧ tsSpec ref off < ref + 32 ∧ tsSpec ref off % 32 = off := by
  rw [tsSpec_eq hoff, tsAdvance, Nat.mod_eq_of_lt (by omega)]
  omega

/-- `stepData`'s two assignments on a compressed header (`tsAdvance`, then `lastOff := off`) over the offsets `offs` -/
def runCompressed : TsRef → List Nat → List Nat
  | _, [] => []
  | ts, off :: offs =>
    let t := tsAdvance ts.timestamp ts.lastOff off
    t :: runCompressed ⟨t, off⟩ offs

def scanSpec : Nat → List Nat → List Nat
  | _, [] => []
  | ref, off :: offs => tsSpec ref off :: scanSpec (tsSpec ref off) offs

/-- a run of compressed headers follows `tsSpec` from the first reference -/
theorem run_accumulates (ts : TsRef) (offs : List Nat) (ho : ∀ o ∈ offs, o < 32) (hi : Inv ts)
    (hlt : ts.timestamp < 2 ^ 32) :
    runCompressed ts offs = scanSpec ts.timestamp offs := by
  induction offs generalizing ts with
  | nil => rfl
  | cons off offs ih =>
    have hoff : off < 32 := ho off (List.mem_cons_self ..)
    simp only [runCompressed, scanSpec]
    rw [compressed_rule ts off hoff hi hlt]
    congr 1
    exact ih ⟨tsSpec ts.timestamp off, off⟩ (fun o h => ho o (List.mem_cons_of_mem _ h)) (tsSpec_mod hoff).symm
      (Nat.mod_lt _ (by decide))

/-- date_time fields: `v ≠ 0xFFFFFFFF` decodes to epoch + v seconds in UTC; 0xFFFFFFFF leaves the
    field untouched (it keeps the constructor's invalid base time). -/
theorem datetime_decode (ts : TsRef) (pf : PField) (v : Nat) (hk : tcKind pf.tcode = .timeUTC) :
    (v ≠ 0xFFFFFFFF → (parseTimeStamp ts pf v).1 = some (.t v 0 0)) ∧
    ((parseTimeStamp ts pf 0xFFFFFFFF) = (none, ts)) :=
  ⟨fun h => by rw [parseTimeStamp_utc ts pf v hk h], parseTimeStamp_invalid ts pf⟩

/-- every explicit timestamp field (number 253) re-bases the reference and restores `Inv` -/
theorem explicit_rebases (ts : TsRef) (pf : PField) (v : Nat) (hk : tcKind pf.tcode = .timeUTC)
    (hn : pf.num = fieldNumTimeStamp) (hv : v ≠ 0xFFFFFFFF) :
    (parseTimeStamp ts pf v).2 = ⟨v, v % 32⟩ ∧ Inv (parseTimeStamp ts pf v).2 := by
  rw [parseTimeStamp_utc ts pf v hk hv, if_pos hn]
  exact ⟨rfl, rfl⟩

/-- the reference changes only through field 253 of kind date_time -/
theorem reference_only_from_timestamp_field (ts : TsRef) (pf : PField) (v : Nat)
    (h : (parseTimeStamp ts pf v).2 ≠ ts) : pf.num = fieldNumTimeStamp ∧ tcKind pf.tcode = .timeUTC := by
  by_cases hv : v = 0xFFFFFFFF
  · rw [hv, parseTimeStamp_invalid] at h; exact absurd rfl h
  · by_cases hk : tcKind pf.tcode = .timeUTC
    · rw [parseTimeStamp_utc ts pf v hk hv] at h
      by_cases hn : pf.num = fieldNumTimeStamp
      · exact ⟨hn, hk⟩
      · rw [if_neg hn] at h; exact absurd rfl h
    · rw [parseTimeStamp_local ts pf v hk hv] at h; exact absurd rfl h

def wallClock : Val → Option Int
  | .t secs off _ => some (secs + off)
  | _ => none

/-- local_date_time fields keep the stored wall-clock reading; with a reference (a timestamp at or
    above the system-time marker) the instant is the reference and the zone offset is
    local − UTC; without one the offset is 0. -/
theorem local_wallclock (ts : TsRef) (pf : PField) (v : Nat) (hk : tcKind pf.tcode = .timeLocal)
    (hv : v ≠ 0xFFFFFFFF) :
    ((parseTimeStamp ts pf v).1.bind wallClock = some (v : Int)) ∧
    (parseTimeStamp ts pf v).2 = ts ∧
    ((systemTimeMarker ≤ ts.timestamp) →
        (parseTimeStamp ts pf v).1 = some (.t ts.timestamp ((v : Int) - ts.timestamp) 1)) ∧
    ((ts.timestamp < systemTimeMarker) → (parseTimeStamp ts pf v).1 = some (.t v 0 1)) := by
  rw [parseTimeStamp_local ts pf v (by rw [hk]; decide) hv]
  refine ⟨?_, rfl, fun h => ?_, fun h => ?_⟩
  · split <;> simp [wallClock]; omega
  · rw [if_neg (by unfold systemTimeMarker at *; omega)]
  · rw [if_pos (Or.inr h)]

/-! `stepData` and `stepDataPreset` are `parseDataMessage`'s prelude `dataHead` followed by the field loop; what a
compressed-timestamp header changes is a fact about the prelude (`dataHead_compressed`). -/

/-- without a reference (timestamp 0) a compressed-timestamp record does not set a time:
    `stepData` takes the uncompressed path. -/
theorem no_reference_skips (P : Profile) (hb : Nat) (fs dev : List Bytes) (st : DecSt)
    (h : st.timestamp = 0) (hl : st.defs.getD ((hb / 32) % 4) none = st.defs.getD (hb % 16) none) :
    stepData P hb true fs dev st = stepData P hb false fs dev st := by
  rw [stepData_head, stepData_head]
  unfold dataHead
  simp only [h, ↓reduceIte, hl, ne_eq, not_true_eq_false, decide_false, Bool.and_false, Bool.not_false, Bool.false_eq_true]

/-- non-vacuity: reference 1000 (low bits 8), offset 12 → 1004; offset 3 → 1027 (rollover). -/
example : tsSpec 1000 12 = 1004 ∧ tsSpec 1000 3 = 1027 ∧ tsAdvance 1000 8 3 = 1027 := by decide

/-- **Framing (byte parser = record machine)**: `run_items`.  The theorems of this file about the record
    machine are therefore theorems about the decoder. -/
theorem byte_parser_is_record_machine (P : Profile) (limit : Nat) (cont : DecSt → DP) (its : List Item) (fuel : Nat)
    (st : DecSt) (n : Nat) (s : SpecSt) (tail : Bytes) (hfit : ItemsFit P st its)
    (hs : s.rest = serialize its ++ tail) (hl : n + (serialize its).length ≤ limit) (hn : st.n = n) :
    match stepItems P st its with
    | .ok st' =>
      runSpecD limit (decodeFileData P limit (fuel + its.length) st cont) n s =
        runSpecD limit (decodeFileData P limit fuel st' cont) (n + (serialize its).length)
          { s with rest := tail, taken := s.taken + (serialize its).length } ∧ st'.n = n + (serialize its).length
    | .stop o =>
      ∃ e, (runSpecD limit (decodeFileData P limit (fuel + its.length) st cont) n s).1 = .inl e ∧
        e.err = (exitOf o).err :=
  run_items P limit cont its fuel st n s tail hfit hs hl hn

/-- A compressed-timestamp record of a message without a timestamp field is an ordinary record read
    *after* the reference was advanced by the header's offset: every field of the record — a local
    timestamp in particular — is decoded against the record's own time, not the previous record's.
    (`hd`, `hctor`: where the prelude stops, the left side stops in `st`, the right in the advanced state.) -/
theorem compressed_fields_see_advanced_reference (P : Profile) (l off : Nat) (hl : l < 4) (hoff : off < 32)
    (fs dev : List Bytes) (st : DecSt) (href : st.timestamp ≠ 0) (dm : DefMsg)
    (hd : st.defs.getD l none = some dm)
    (hctor : P.known dm.global = true → ∃ pm, P.msg? dm.global = some pm ∧ pm.hasCtor = true)
    (hno : P.getField dm.global fieldNumTimeStamp = none) :
    stepData P (0x80 + l * 32 + off) true fs dev st =
      stepData P l false fs dev { st with timestamp := tsAdvance st.timestamp st.lastOff off, lastOff := off } := by
  rw [stepData_head, stepData_head, dataHead_compressed P hl hoff st href]
  unfold dataHead stampHead
  simp only [Nat.mod_eq_of_lt (Nat.lt_trans hl (by decide : 4 < 16)), ↓reduceIte, Bool.false_and, hd, hno,
    Bool.not_false, Bool.false_eq_true]
  cases hk : P.known dm.global with
  | false => simp
  | true =>
    obtain ⟨pm, hpm, hc⟩ := hctor hk
    simp [hpm, hc]

/-- an ordinary data record of local type `l` whose fresh all-invalid message is passed through
    `pre` before the fields are read (`pre = id`: `stepData` itself, `stepDataPreset_id`) -/
def stepDataPreset (P : Profile) (l : Nat) (pre : Msg → Msg) (fields dev : List Bytes) (st : DecSt) : StepRes :=
  match st.defs.getD l none with
  | none => .stop (fail st .other)
  | some dm =>
    let known := P.known dm.global
    let ctor := match P.msg? dm.global with
      | some pm => if pm.hasCtor then some (Msg.mk dm.global pm.invalid) else none
      | none => none
    if known ∧ ctor.isNone then .stop (panicOut st)
    else
      let m : Option Msg := if known then ctor.map pre else none
      let st := if !known then { st with unkM := bump dm.global st.unkM } else st
      match stepFields P dm known dm.fields fields m st with
      | .fail o => .stop o
      | .ok m st =>
        let st := stepDev dm.dev dev st
        match addMsg P m st with
        | none => .stop (panicOut st)
        | some st => .ok st

theorem stepDataPreset_head (P : Profile) {l : Nat} (hl : l < 16) (pre : Msg → Msg) (fs dev : List Bytes) (st : DecSt) :
    stepDataPreset P l pre fs dev st =
      dataHead P l false st giveUp fun dm m => afterHead P fs dev dm (m.map pre) := by
  unfold stepDataPreset dataHead afterHead giveUp
  simp only [Bool.false_eq_true, ↓reduceIte, Nat.mod_eq_of_lt hl, Bool.false_and, Bool.not_false]
  cases st.defs.getD l none with
  | none => rfl
  | some dm =>
    dsimp only
    cases P.known dm.global <;> rfl

theorem stepDataPreset_id (P : Profile) (l : Nat) (hl : l < 16) (fs dev : List Bytes) (st : DecSt) :
    stepDataPreset P l id fs dev st = stepData P l false fs dev st := by
  rw [stepDataPreset_head P hl, stepData_head]
  simp only [Option.map_id, id_eq]

/-- The same for a message that has a timestamp field: the compressed record is the ordinary record,
    read after the reference was advanced, into a message whose timestamp already holds the
    advanced reference. -/
theorem compressed_record_is_plain_record_at_its_time (P : Profile) (l off : Nat) (hl : l < 4) (hoff : off < 32)
    (fs dev : List Bytes) (st : DecSt) (href : st.timestamp ≠ 0) (dm : DefMsg) (pm : PMsg) (pf : PField)
    (hd : st.defs.getD l none = some dm) (hk : P.known dm.global = true)
    (hpm : P.msg? dm.global = some pm) (hc : pm.hasCtor = true)
    (hf : P.getField dm.global fieldNumTimeStamp = some pf) (hlay : pm.layout[pf.sindex]? = some .time) :
    stepData P (0x80 + l * 32 + off) true fs dev st =
      stepDataPreset P l
        (fun m => { m with vals := setAt m.vals pf.sindex (.t (Int.ofNat (tsAdvance st.timestamp st.lastOff off)) 0 0) })
        fs dev { st with timestamp := tsAdvance st.timestamp st.lastOff off, lastOff := off } := by
  have hd' : st.defs.getD (l % 16) none = some dm := by rwa [Nat.mod_eq_of_lt (Nat.lt_trans hl (by decide))]
  rw [stepDataPreset_head P (Nat.lt_trans hl (by decide)), stepData_head, dataHead_compressed P hl hoff st href,
    dataHead_eq, dataHead_eq, dataPre_plain hd' hk hpm hc, dataPre_plain (st := { st with timestamp := _, lastOff := off }) hd' hk hpm hc]
  unfold stampHead
  simp only [hf, hpm, hlay, Option.map_some]

/-- non-vacuity on the regenerated profile: activity (34) has a timestamp field in a `time` slot, a
    constructor, and a local-timestamp field -/
example : (match Gen.profile.msg? 34, Gen.profile.getField 34 fieldNumTimeStamp with
    | some pm, some pf => pm.hasCtor && Gen.profile.known 34 && (pm.layout[pf.sindex]? == some .time) &&
        (pm.fields.any fun lf => tcKind lf.tcode == .timeLocal)
    | _, _ => false) = true := by
  decide +kernel

end Fit.Props.C12
