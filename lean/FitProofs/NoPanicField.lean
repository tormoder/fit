import FitProofs.FieldValue
import FitProofs.WF
import FitProofs.ListLemmas
/-
  Field level of C01: on a well-formed profile, a field of a validated definition never makes
  `applyField` panic (reflection SetUint/SetInt on the wrong kind, short slices, missing struct field).
-/
namespace Fit

theorem arrayOf_no_panic {arch : Endian} {ek : Sc} {w : Nat} {tmp : Bytes} {set : Nat → Option Val} {g : Nat → Val}
    (hset : ∀ x, set x = some (g x)) (hek : ek ≠ .s) : arrayOf arch ek w tmp set ≠ .panic := by
  rw [arrayOf_total hset]
  cases ek with
  | s => exact absurd rfl hek
  | _ => simp [sliceOf]

theorem parseFitFieldArray_no_panic {arch : Endian} {fd : FieldDef} {ek : Sc} {tmp : Bytes} {pm : PMsg} {pf : PField}
    (facts : FieldFacts pm pf) (hb : fd.btype = tcBase pf.tcode) (hek : scOfBase (tcBase pf.tcode) = some ek) :
    parseFitFieldArray arch fd (.sl ek) tmp ≠ .panic := by
  rw [parseFitFieldArray_eq (hb ▸ listed_parsed (tcBase_listed facts))]
  by_cases h0 : fd.btype = Base.byte
  · rw [← hb, h0] at hek
    cases hek
    simp [h0]
  · simp only [h0, ↓reduceIte]
    by_cases h4 : fd.btype = Base.string
    · rw [← hb, h4, scOfBase_string] at hek
      cases hek
      rw [if_pos h4]
      split <;> simp
    · rw [facts.sc (hb ▸ h4), scOfInt, ← hb] at hek
      rw [if_neg h4, hb, facts.nofloat, ← hb]
      cases hsg : Base.signed fd.btype <;> rw [hsg] at hek <;> cases hek
      · exact arrayOf_no_panic (fun x => rfl) (by simp)
      · exact arrayOf_no_panic (fun x => rfl) (by simp)

/-- not a panic, and a known message keeps its struct -/
def FieldsRes.Good (known : Bool) : FieldsRes → Prop
  | .panic => False
  | .err => True
  | .ok m' _ => known = true → m'.isSome = true

theorem FieldRes.store_good {kn : Bool} {msg : Msg} {i : Nat} {r : FieldRes × TsRef} (h : r.1 ≠ .panic) :
    FieldsRes.Good kn (FieldRes.store msg i r) := by
  obtain ⟨v, ts⟩ := r
  cases v with
  | ok o => cases o <;> intro _ <;> rfl
  | err => trivial
  | panic => exact absurd rfl h

/-- why no field of a validated definition panics: the struct field has the Go kind the profile type
    calls for, the definition's base type agrees with it in signedness and is no wider, and the bytes
    read suffice -/
theorem fieldValue_no_panic {pm : PMsg} {pf : PField} (facts : FieldFacts pm pf) {k : SlotKind}
    (hslot : slotOfType pf.tcode = some k) {fd : FieldDef} (hkn : Base.known fd.btype = true)
    (hsz : fd.btype ≠ Base.string → Base.size fd.btype ≤ fd.size) (hfit : DefFits fd pf.tcode)
    (dm : DefMsg) (raw : Bytes) (hraw : raw.length = fd.size) (ts : TsRef) :
    (fieldValue dm fd pf k raw ts).1 ≠ .panic := by
  by_cases hk : tcKind pf.tcode = .native
  · obtain ⟨sck, hsc, rfl⟩ := slotOfType_native_inv hk hslot
    rw [fieldValue_native hk, List.take_of_length_le (Nat.le_of_eq hraw)]
    cases ha : tcArray pf.tcode with
    | true =>
      have hb := hfit.array ha
      simp only [Bool.not_true, Bool.false_eq_true, ↓reduceIte]
      exact parseFitFieldArray_no_panic facts hb hsc
    | false =>
      simp only [Bool.not_false, ↓reduceIte, Bool.false_eq_true]
      by_cases hp : fd.btype ∈ Base.parsed
      · rw [parseFitField_eq hp]
        by_cases hs : fd.btype = Base.string
        · -- a string goes into a string field
          rw [hfit.string hs, scOfBase_string] at hsc
          cases hsc
          rw [if_pos hs]
          split <;> simp
        · -- the definition's signedness is the profile type's, hence the slot's: `setUint` / `setInt` meets its kind
          have hsf := hfit.scalar ha hs
          have hF : Base.isFloat fd.btype = false := Bool.eq_false_iff.mpr fun hf => by
            have := hsf.float hf
            rw [facts.nofloat] at this
            cases this
          rw [facts.sc hsf.nostr, scOfInt, hsf.signed] at hsc
          rw [if_neg hs, if_neg (Nat.not_lt.mpr (hraw ▸ hsz hs)), hF]
          cases hsg' : Base.signed fd.btype
          · rw [hsg'] at hsc
            cases hsc
            simp [setUint, FieldRes.ofSet]
          · rw [hsg'] at hsc
            cases hsc
            simp [setInt, FieldRes.ofSet]
      · rw [parseFitField_err hp]
        simp
  · -- time and coordinates: the bytes read are widened to the four bytes of the profile type
    obtain ⟨hps, ha, hp4⟩ := facts.fixed hk
    have hbs : fd.btype ≠ Base.string := fun h => hps (hfit.string h)
    have hle := (hfit.scalar ha hbs).le
    have h1 := Base.size_pos hkn
    have h2 := hsz hbs
    have hlen := padTmp_length dm.arch fd.btype raw fd.size 4 hraw (by omega) (hp4 ▸ hle)
    rw [fieldValue_fixed hk ⟨hps, ha, hp4⟩]
    generalize padTmp dm.arch fd.btype raw fd.size 4 = tmp at hlen ⊢
    have h4 : 4 ≤ tmp.length := by omega
    cases hkd : tcKind pf.tcode with
    | native => exact absurd hkd hk
    | unknown n => exact absurd hkd (facts.not_unknown n)
    | timeUTC | timeLocal =>
      cases (slotOfType_time (by simp [hkd]) ha).symm.trans hslot
      rw [tmpValue_time (by simp [hkd]) h4]
      simp
    | lat =>
      cases (slotOfType_lat hkd ha).symm.trans hslot
      rw [tmpValue_lat hkd h4]
      simp
    | lng =>
      cases (slotOfType_lng hkd ha).symm.trans hslot
      rw [tmpValue_lng hkd h4]
      simp

/-- the result of `applyField` on a validated definition of a well-formed profile: never a panic,
    and a message under construction stays one -/
theorem applyField_good (P : Profile) (hwf : ProfileWF P = true) (dm : DefMsg) (known : Bool)
    (fd : FieldDef) (raw : Bytes) (m : Option Msg) (ts : TsRef)
    (hknown : known = P.known dm.global)
    (hv : validateFieldDef P dm.global fd = true)
    (hraw : raw.length = fd.size)
    (hm : known = true → m.isSome = true) :
    FieldsRes.Good known (applyField P dm known fd raw m ts) := by
  cases known with
  | false =>
    rw [applyField_not_known]
    intro h
    cases h
  | true =>
    cases hpf : P.getField dm.global fd.num with
    | none =>
      rw [applyField_unlisted hpf]
      exact hm
    | some pf =>
      obtain ⟨msg, rfl⟩ := Option.isSome_iff_exists.mp (hm rfl)
      obtain ⟨pm, hpm, _, facts⟩ := getField_facts hwf hpf
      obtain ⟨k, hl, hslot⟩ := facts.slot
      obtain ⟨hkn, hsz, hfit⟩ := (validateFieldDef_iff P dm.global fd).mp hv
      rw [applyField_listed hpf hpm hl]
      exact FieldRes.store_good
        (fieldValue_no_panic facts hslot hkn hsz (hfit pf hknown.symm hpf) dm raw hraw ts)

end Fit
