import FitModel.Encode
import FitProofs.FieldValue
import FitProofs.Codec
import FitProofs.ListLemmas
/-
  The value layer of `Encode` and `Decode`, each side in closed form: what `encodeScalar` and
  `writeField` put on the wire for numbers and arrays of numbers, and what `parseFitField` and
  `parseFitFieldArray` make of the bytes so written.
-/
namespace Fit

/-- the number `encodeScalar` puts on the wire for a numeric value in `bits` bits -/
def Val.wire (bits : Nat) : Val → Nat
  | .u n => n
  | .f n => n
  | .i z => toUnsigned bits z
  | _ => 0

/-- the elements of an array value, as `writeField` enumerates them (a nil slice has none) -/
def Val.elems : Val → List Val
  | .us (some xs) => xs.map .u
  | .is (some xs) => xs.map .i
  | .fs (some xs) => xs.map .f
  | _ => []

theorem Val.elems_length_us (xs : Option (List Nat)) : (Val.us xs).elems.length = (xs.getD []).length := by
  cases xs <;> simp [Val.elems]

theorem Val.elems_length_is (zs : Option (List Int)) : (Val.is zs).elems.length = (zs.getD []).length := by
  cases zs <;> simp [Val.elems]

/-- `.u`, `.i`, `.f`: the values `encodeScalar` writes as numbers -/
def Val.isNum : Val → Bool
  | .u _ | .i _ | .f _ => true
  | _ => false

theorem Val.isNum_of_mem_elems {a e : Val} (h : e ∈ a.elems) : e.isNum = true := by
  unfold Val.elems at h
  split at h
  · obtain ⟨x, _, rfl⟩ := List.mem_map.mp h; rfl
  · obtain ⟨x, _, rfl⟩ := List.mem_map.mp h; rfl
  · obtain ⟨x, _, rfl⟩ := List.mem_map.mp h; rfl
  · cases h

theorem encodeScalar_num (arch : Endian) (pf : PField) (k : Sc) (v : Val) (hnat : tcKind pf.tcode = .native)
    (hns : tcBase pf.tcode ≠ Base.string) (hv : v.isNum = true) :
    encodeScalar arch pf k v = .ok (arch.enc (scWidth k) (v.wire (8 * scWidth k))) := by
  cases v with
  | u _ | i _ | f _ => simp [encodeScalar, hnat, hns, Val.wire]
  | _ => cases hv

theorem encodeScalar_string {arch : Endian} {pf : PField} {k : Sc} {b : Bytes} (hnat : tcKind pf.tcode = .native)
    (hs : tcBase pf.tcode = Base.string) : encodeScalar arch pf k (.s b) = encodeString b pf.length := by
  simp only [encodeScalar, hnat, hs, ↓reduceIte]
  cases encodeString b pf.length <;> rfl

theorem encodeScalar_timeUTC {arch : Endian} {pf : PField} {k : Sc} {secs off : Int} {z : Nat}
    (hk : tcKind pf.tcode = .timeUTC) :
    encodeScalar arch pf k (.t secs off z) = .ok (arch.enc 4 (LatLng.encodeTime secs)) := by
  simp only [encodeScalar, hk]

theorem encodeScalar_timeLocal {arch : Endian} {pf : PField} {k : Sc} {secs off : Int} {z : Nat}
    (hk : tcKind pf.tcode = .timeLocal) :
    encodeScalar arch pf k (.t secs off z) = .ok (arch.enc 4 (toUnsigned 32 ((LatLng.encodeTime secs : Int) + off))) := by
  simp only [encodeScalar, hk]

theorem encodeScalar_lat {arch : Endian} {pf : PField} {k : Sc} {z : Int} (hk : tcKind pf.tcode = .lat) :
    encodeScalar arch pf k (.lat z) = .ok (arch.enc 4 (toUnsigned 32 z)) := by
  simp only [encodeScalar, hk]

theorem encodeScalar_lng {arch : Endian} {pf : PField} {k : Sc} {z : Int} (hk : tcKind pf.tcode = .lng) :
    encodeScalar arch pf k (.lng z) = .ok (arch.enc 4 (toUnsigned 32 z)) := by
  simp only [encodeScalar, hk]

theorem writeField_string_array {arch : Endian} {pf : PField} {k : SlotKind} {v : Val} (ha : tcArray pf.tcode = true)
    (hs : tcBase pf.tcode = Base.string) : writeField arch pf k v = .error .error := by
  simp only [writeField, ha, hs, Bool.not_true, Bool.false_eq_true, ↓reduceIte]

theorem concatE_cons_ok {x : Except EncErr Bytes} {xs : List (Except EncErr Bytes)} {b : Bytes}
    (h : concatE (x :: xs) = .ok b) : ∃ a br, x = .ok a ∧ concatE xs = .ok br ∧ b = a ++ br := by
  cases x with
  | error e => cases h
  | ok a =>
    cases hr : concatE xs with
    | error e => simp [concatE, hr] at h
    | ok br =>
      simp only [concatE, hr, Except.ok.injEq] at h
      exact ⟨a, br, rfl, rfl, h.symm⟩

theorem concatE_ok {l : List (Except EncErr Bytes)} {b : Bytes} (h : concatE l = .ok b) :
    ∃ parts : List Bytes, l = parts.map .ok ∧ b = parts.flatten := by
  induction l generalizing b with
  | nil => simp only [concatE] at h; cases h; exact ⟨[], rfl, rfl⟩
  | cons x xs ih =>
    obtain ⟨a, br, rfl, hr, rfl⟩ := concatE_cons_ok h
    obtain ⟨parts, h1, h2⟩ := ih hr
    exact ⟨a :: parts, by rw [h1]; rfl, by rw [h2]; rfl⟩

theorem concatE_error {l : List (Except EncErr Bytes)} {e : EncErr} (h : concatE l = .error e) : .error e ∈ l := by
  induction l with
  | nil => cases h
  | cons x xs ih =>
    cases x with
    | error e' => simp only [concatE, Except.error.injEq] at h; exact h ▸ List.mem_cons_self ..
    | ok b =>
      simp only [concatE] at h
      cases hr : concatE xs with
      | ok r => rw [hr] at h; cases h
      | error e' => rw [hr] at h; cases h; exact List.mem_cons_of_mem _ (ih hr)

theorem concatE_all_ok {α} (f : α → Bytes) (l : List α) :
    concatE (l.map fun x => (Except.ok (f x) : Except EncErr Bytes)) = .ok (l.map f).flatten := by
  induction l with
  | nil => rfl
  | cons x xs ih => simp only [List.map_cons, concatE, ih, List.flatten_cons]

theorem writeField_scalar {arch : Endian} {pf : PField} {sk : Sc} {v : Val} (ha : tcArray pf.tcode = false) :
    writeField arch pf (.sc sk) v = encodeScalar arch pf sk v := by
  simp only [writeField, ha, Bool.not_false, ↓reduceIte]

theorem writeField_time {arch : Endian} {pf : PField} {v : Val} (ha : tcArray pf.tcode = false) :
    writeField arch pf .time v = encodeScalar arch pf (.u 32) v := by
  simp only [writeField, ha, Bool.not_false, ↓reduceIte]

theorem writeField_lat {arch : Endian} {pf : PField} {v : Val} (ha : tcArray pf.tcode = false) :
    writeField arch pf .lat v = encodeScalar arch pf (.i 32) v := by
  simp only [writeField, ha, Bool.not_false, ↓reduceIte]

theorem writeField_lng {arch : Endian} {pf : PField} {v : Val} (ha : tcArray pf.tcode = false) :
    writeField arch pf .lng v = encodeScalar arch pf (.i 32) v := by
  simp only [writeField, ha, Bool.not_false, ↓reduceIte]

/-- the elements go out in the Go width of the slice's element kind, the padding in the base type's
    own size -/
theorem writeField_array (arch : Endian) (pf : PField) (ek : Sc) (v : Val)
    (harr : tcArray pf.tcode = true) (hns : tcBase pf.tcode ≠ Base.string) (hnat : tcKind pf.tcode = .native) :
    writeField arch pf (.sl ek) v =
      .ok ((((v.elems.take pf.length).map (Val.wire (8 * scWidth ek))).map (arch.enc (scWidth ek))).flatten ++
        (List.replicate (pf.length - v.elems.length)
          (arch.enc (Base.size (tcBase pf.tcode)) (Base.invalidNat (tcBase pf.tcode)))).flatten) := by
  have he : writeField arch pf (.sl ek) v =
      match concatE ((v.elems.take (min v.elems.length pf.length)).map (encodeScalar arch pf ek)) with
      | .error e => .error e
      | .ok body => .ok (body ++ (List.replicate (pf.length - min v.elems.length pf.length)
          (arch.enc (Base.size (tcBase pf.tcode)) (Base.invalidNat (tcBase pf.tcode)))).flatten) := by
    unfold writeField
    simp only [harr, Bool.not_true, Bool.false_eq_true, ↓reduceIte, hns]
    rcases v with _|_|_|_|(_|_)|(_|_)|(_|_)|_|_|_|_ <;> rfl
  have henc : (v.elems.take pf.length).map (encodeScalar arch pf ek) = (v.elems.take pf.length).map fun e =>
      (Except.ok (arch.enc (scWidth ek) (e.wire (8 * scWidth ek))) : Except EncErr Bytes) :=
    List.map_congr_left fun e h => encodeScalar_num arch pf ek e hnat hns (Val.isNum_of_mem_elems (List.mem_of_mem_take h))
  rw [he, Nat.min_comm, ← List.take_eq_take_min, henc, concatE_all_ok, List.map_map,
    show pf.length - min pf.length v.elems.length = pf.length - v.elems.length by omega]
  rfl

theorem scWidth_scOfInt (b : Nat) : scWidth (scOfInt b) = Base.size b := by
  unfold scOfInt
  split <;> simp [scWidth]

theorem chunks_encodings (arch : Endian) (w : Nat) (hw : 0 < w) (xs : List Nat) (fuel : Nat)
    (hf : (xs.map (arch.enc w)).flatten.length ≤ fuel) :
    chunks w (xs.map (arch.enc w)).flatten fuel = xs.map (arch.enc w) := by
  induction xs generalizing fuel with
  | nil => cases fuel <;> simp [chunks]
  | cons x xs ih =>
    simp only [List.map_cons, List.flatten_cons, List.length_append, enc_length] at hf ⊢
    cases fuel with
    | zero => omega
    | succ f =>
      have h1 : ¬ ((arch.enc w x ++ (xs.map (arch.enc w)).flatten).length < w ∨ w = 0) := by
        simp only [List.length_append, enc_length]; omega
      rw [chunks, if_neg h1, List.take_left' (enc_length arch w x), List.drop_left' (enc_length arch w x), ih f (by omega)]

/-- what an array of an integer base type is read back as from the encodings of `ns` -/
def readBack (b : Nat) (ns : List Nat) : Val :=
  if Base.signed b then .is (some (ns.map fun n => toSigned (8 * Base.size b) (toUnsigned 64 (n % 256 ^ Base.size b : Nat))))
  else .us (some (ns.map (· % 256 ^ Base.size b)))

theorem parseFitFieldArray_encodings (arch : Endian) (fd : FieldDef) (ns : List Nat)
    (hb : fd.btype ∈ listedBases) (hs : fd.btype ≠ Base.string) :
    parseFitFieldArray arch fd (.sl (scOfInt fd.btype)) (ns.map (arch.enc (Base.size fd.btype))).flatten =
      .ok (some (readBack fd.btype ns)) := by
  have hw := (listed_int hb hs).width
  have hfl := (listed_int hb hs).nofloat
  rw [parseFitFieldArray_eq (listed_parsed hb)]
  by_cases hnb : fd.btype = Base.byte
  · -- byte arrays are copied byte for byte
    have h1 : ∀ l : List Nat, ((l.map (arch.enc 1)).flatten).map (·.toNat) = l.map (· % 256 ^ 1) := by
      intro l
      induction l with
      | nil => rfl
      | cons a l ih => rw [List.map_cons, List.flatten_cons, List.map_append, ih]; cases arch <;> simp [Endian.enc, natLE, natBE]
    simp only [hnb, ↓reduceIte, show scOfInt Base.byte = .u 8 from by decide, show Base.size Base.byte = 1 from rfl,
      readBack, show Base.signed Base.byte = false from rfl, h1, Bool.false_eq_true]
  · rw [if_neg hnb]
    simp only [if_neg hs, hfl, Bool.false_eq_true, ↓reduceIte]
    unfold scOfInt readBack
    cases hsg : Base.signed fd.btype
    · simp only [Bool.false_eq_true, ↓reduceIte]
      rw [arrayOf_total (show ∀ x, setUint (.sc (.u (8 * Base.size fd.btype))) x =
          some (.u (x % 2 ^ (8 * Base.size fd.btype))) from fun x => rfl),
        chunks_encodings arch _ (by omega) ns _ (Nat.le_refl _), List.map_map]
      simp only [sliceOf, List.filterMap_map, Function.comp_def, dec_enc, pow256, Nat.mod_mod]
      exact congrArg (fun l => FieldRes.ok (some (.us (some l))))
        (filterMap_some_comp (f := fun n => n % 2 ^ (8 * Base.size fd.btype)) ns)
    · simp only [↓reduceIte]
      rw [arrayOf_total (show ∀ x : Nat, setInt (.sc (.i (8 * Base.size fd.btype))) x =
          some (.i (toSigned (8 * Base.size fd.btype) (toUnsigned 64 x))) from fun x => rfl),
        chunks_encodings arch _ (by omega) ns _ (Nat.le_refl _), List.map_map]
      simp only [sliceOf, List.filterMap_map, Function.comp_def, dec_enc]
      exact congrArg (fun l => FieldRes.ok (some (.is (some l)))) (filterMap_some_comp
        (f := fun n => toSigned (8 * Base.size fd.btype) (toUnsigned 64 (n % 256 ^ Base.size fd.btype : Nat))) ns)

/-- a numeric value in the range of its Go kind -/
def Sc.holds : Sc → Val → Prop
  | .u bits, .u n => n < 2 ^ bits
  | .i bits, .i z => -(2 ^ (bits - 1) : Int) ≤ z ∧ z < (2 ^ (bits - 1) : Int)
  | _, _ => False

theorem Sc.holds.isNum {k : Sc} {v : Val} (h : k.holds v) : v.isNum = true := by
  cases k <;> cases v <;> first
    | rfl
    | cases h

/-- C06 at the value level, for every integer base type at once -/
theorem int_value_roundtrip (arch : Endian) (fd : FieldDef) (v : Val)
    (hb : fd.btype ∈ listedBases) (hs : fd.btype ≠ Base.string) (hv : (scOfInt fd.btype).holds v) :
    parseFitField arch fd (.sc (scOfInt fd.btype))
      (arch.enc (Base.size fd.btype) (v.wire (8 * Base.size fd.btype))) = .ok (some v) := by
  have hw := (listed_int hb hs).width
  have hfl := (listed_int hb hs).nofloat
  rw [parseFitField_eq (listed_parsed hb), if_neg hs, enc_length, if_neg (Nat.lt_irrefl _),
    List.take_of_length_le (by rw [enc_length]; exact Nat.le_refl _), dec_enc, hfl, pow256]
  unfold scOfInt at hv ⊢
  cases hsg : Base.signed fd.btype
  · rw [hsg] at hv
    cases v with
    | u n =>
      have hn : n < 2 ^ (8 * Base.size fd.btype) := hv
      simp only [Bool.false_eq_true, ↓reduceIte, Val.wire, setUint, Nat.mod_eq_of_lt hn, FieldRes.ofSet]
    | _ => cases hv
  · rw [hsg] at hv
    cases v with
    | i z =>
      obtain ⟨hlo, hhi⟩ : -(2 ^ (8 * Base.size fd.btype - 1) : Int) ≤ z ∧ z < (2 ^ (8 * Base.size fd.btype - 1) : Int) := hv
      have h8 : 0 < 8 * Base.size fd.btype := by omega
      simp only [Bool.false_eq_true, ↓reduceIte, Val.wire, setInt, Nat.mod_eq_of_lt (toUnsigned_lt _ z),
        toSigned_toUnsigned_le _ _ h8 (Nat.le_refl _) z hlo hhi, toSigned_toUnsigned_le _ 64 h8 (by omega) z hlo hhi,
        FieldRes.ofSet]
    | _ => cases hv

end Fit
