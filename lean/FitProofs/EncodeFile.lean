import FitProofs.Groups
import FitProofs.HdrKind
/-
  C05 at file level: the record area `Encode` writes is the serialisation of items that fit; and the
  anatomy of `encode` (what success is, how it fails, the frame it lays out).
-/
namespace Fit

theorem ItemsFitD_append (P : Profile) (defs : List (Option DefMsg)) (a b : List Item) :
    ItemsFitD P defs (a ++ b) ↔ ItemsFitD P defs a ∧ ItemsFitD P (a.foldl (defsAfter P) defs) b := by
  induction a generalizing defs with
  | nil => simp [ItemsFitD]
  | cons it its ih =>
    simp only [List.cons_append, ItemsFitD, List.foldl_cons, ih, and_assoc]

theorem defsAfter_length (P : Profile) (defs : List (Option DefMsg)) (it : Item) :
    (defsAfter P defs it).length = defs.length := by
  cases it with
  | defn d b =>
    simp only [defsAfter]
    split
    · rfl
    · exact length_setAt _ _ _
  | data _ _ _ => rfl
  | cdata _ _ _ _ => rfl

theorem foldl_defsAfter_length (P : Profile) (defs : List (Option DefMsg)) (its : List Item) :
    (its.foldl (defsAfter P) defs).length = defs.length := by
  induction its generalizing defs with
  | nil => rfl
  | cons it its ih => rw [List.foldl_cons, ih, defsAfter_length]

theorem validate_fdOf {P : Profile} {g : Nat} {pm : PMsg} {pf : PField} (facts : FieldFacts pm pf)
    (hgf : P.known g = true → P.getField g pf.num = some pf) :
    validateFieldDef P g (fdOf pf) = true := by
  obtain ⟨hsz, _⟩ := szOf_eq facts
  have hl1 := facts.len1
  rw [validateFieldDef_iff]
  refine ⟨facts.known, fun _ => ?_, fun p hk hp => ?_⟩
  · show Base.size (tcBase pf.tcode) ≤ szOf pf
    rw [hsz]
    split
    · exact Nat.le_mul_of_pos_right _ hl1
    · omega
  · cases (hgf hk).symm.trans hp
    refine .of_cases id (fun hs ha => ?_) fun hs ha => ?_
    · show szOf pf % _ = 0 ∧ _
      rw [hsz]
      exact ⟨Nat.mul_mod_right _ _, rfl⟩
    · have hs' : ¬ tcBase pf.tcode = Base.string := hs
      rw [if_neg (by simp [ha, hs'])] at hsz
      exact ⟨by show szOf pf ≤ _; omega, rfl, id, hs⟩

/-- after a definition without developer fields, local type 0 holds it -/
theorem defn_live {defs : List (Option DefMsg)} {d : DefMsg} (hdefs : 0 < defs.length) (hl : d.localT = 0)
    (hdev : d.dev = []) : (setAt defs d.localT (some { d with dev := [] })).getD 0 none = some d := by
  rw [DefMsg.dev_nil hdev, hl, getD_setAt_self _ _ _ _ hdefs]

theorem block_fitsD {P : Profile} {defs : List (Option DefMsg)} {d : DefMsg} {partss : List (List Bytes)}
    (hdefs : 0 < defs.length) (hl : d.localT = 0) (hdev : d.dev = []) (hwf : DefnWF d false)
    (hacc : ¬ (d.global = mesgNumInvalid ∨ (!(d.fields.all (validateFieldDef P d.global))) = true))
    (hfit : ∀ parts ∈ partss, FieldsFit d.fields parts) :
    ItemsFitD P defs (.defn d false :: partss.map fun parts => Item.data 0 parts []) := by
  refine ⟨hwf, ?_⟩
  · simp only [defsAfter, hacc, ↓reduceIte, Bool.false_eq_true]
    have hd0 := defn_live hdefs hl hdev
    generalize setAt defs d.localT (some { d with dev := [] }) = defs' at hd0
    induction partss with
    | nil => trivial
    | cons parts rest ih =>
      simp only [List.map_cons]
      refine ⟨⟨by omega, ?_⟩, ?_⟩
      · intro dm hdm
        rw [hd0] at hdm
        cases hdm
        rw [hdev]
        exact ⟨hfit parts (List.mem_cons_self ..), trivial⟩
      · simp only [defsAfter]
        exact ih (fun p hp => hfit p (List.mem_cons_of_mem _ hp))

theorem defOf_accepted {P : Profile} (hwf : ProfileWF P = true) {arch : Endian} {g : Nat} {pm : PMsg}
    (hpm : P.msg? g = some pm) {fs : List PField} (hmem : ∀ pf ∈ fs, pf ∈ pm.fields) :
    ¬ ((defOf arch g fs).global = mesgNumInvalid ∨
      (!((defOf arch g fs).fields.all (validateFieldDef P (defOf arch g fs).global))) = true) := by
  have hmw := msg?_facts hwf hpm
  have hnum := hmw.num
  have hg : pm.num = g := (Profile.msg?_mem hpm).2
  intro h
  rcases h with h | h
  · simp only [defOf, mesgNumInvalid] at h; omega
  · simp only [defOf, Bool.not_eq_true', List.all_eq_false, List.mem_map] at h
    obtain ⟨fd, ⟨pf, hpf, rfl⟩, hv⟩ := h
    have := validate_fdOf (hmw.fieldFacts pf (hmem pf hpf)) fun hk => hmw.getField hpm hk (hmem pf hpf)
    rw [this] at hv
    exact absurd rfl hv

/-- the items fit from any definition table; `0 < defs.length`: local type 0 must be a slot of the table -/
def FitsAny (P : Profile) (items : List Item) : Prop :=
  ∀ defs : List (Option DefMsg), 0 < defs.length → ItemsFitD P defs items

theorem FitsAny.append {P : Profile} {a b : List Item} (ha : FitsAny P a) (hb : FitsAny P b) : FitsAny P (a ++ b) :=
  fun defs hd => (ItemsFitD_append P defs a b).mpr ⟨ha defs hd, hb _ (by rw [foldl_defsAfter_length]; exact hd)⟩

theorem WrittenBlock.fitsAny {P : Profile} {arch : Endian} {n : Nat} {pm : PMsg} {fs : List PField}
    {partss : List (List Bytes)} (h : WrittenBlock P arch n pm fs partss) (hwf : ProfileWF P = true) :
    FitsAny P (blockItems (defOf arch n fs) partss) :=
  fun _ hdl => block_fitsD hdl rfl rfl h.wf (defOf_accepted hwf h.msg h.mem) h.fits

theorem encodeGroup_fitsD {P : Profile} (hwf : ProfileWF P = true) {arch : Endian} {ms : List Msg}
    {bs : Bytes} (hne : ms ≠ []) (h : encodeGroup P arch ms = .ok bs) :
    ∃ (d : DefMsg) (partss : List (List Bytes)),
      bs = serialize (blockItems d partss) ∧ partss.length = ms.length ∧ FitsAny P (blockItems d partss) := by
  cases ms with
  | nil => exact absurd rfl hne
  | cons m0 rest =>
    obtain ⟨pm, fs, partss, hw, hbs, hlen⟩ := encodeGroup_items hwf h
    exact ⟨defOf arch m0.num fs, partss, hbs, hlen, hw.fitsAny hwf⟩

theorem blocks_fitsAny {P : Profile} {blocks : List MB} (hg : ∀ b ∈ blocks, FitsAny P (blockItems b.d b.partss)) :
    FitsAny P (blocks.flatMap fun b => blockItems b.d b.partss) := by
  induction blocks with
  | nil => exact fun _ _ => trivial
  | cons b bs ih => exact (hg b (List.mem_cons_self ..)).append (ih fun x hx => hg x (List.mem_cons_of_mem _ hx))

theorem encodeGroup_fitsAny {P : Profile} (hwf : ProfileWF P = true) {arch : Endian} {ms : List Msg} {bs : Bytes}
    (h : encodeGroup P arch ms = .ok bs) : BlocksOf (fun b => FitsAny P (blockItems b.d b.partss)) ms bs := by
  cases ms with
  | nil => cases h; exact .nil
  | cons m0 rest =>
    obtain ⟨d, partss, rfl, _, hfit⟩ := encodeGroup_fitsD hwf (List.cons_ne_nil _ _) h
    exact .single ⟨d, partss, m0 :: rest⟩ hfit

theorem encodeOne_self_describing {P : Profile} (hwf : ProfileWF P = true) {arch : Endian} {m : Msg} {bs : Bytes}
    (h : encodeOne P arch m = .ok bs) :
    ∃ its : List Item, bs = serialize its ∧ ∀ st : DecSt, 0 < st.defs.length → ItemsFit P st its := by
  rw [encodeOne_eq_group P hwf] at h
  obtain ⟨d, partss, hbs, _, hfit⟩ := encodeGroup_fitsD hwf (List.cons_ne_nil _ _) h
  exact ⟨_, hbs, fun st hst => ItemsFitD.toFit (hfit st.defs hst)⟩

theorem encodeBody_items {P : Profile} (hwf : ProfileWF P = true) {arch : Endian} {f : FileSt} {c : Container}
    {body : Bytes} (h : encodeBody P arch f c = .ok body) :
    ∃ (d0 : DefMsg) (parts0 : List Bytes) (rest : List Item),
      d0.global = f.fileId.num ∧ d0.localT = 0 ∧
      body = serialize (.defn d0 false :: .data 0 parts0 [] :: rest) ∧
      FitsAny P (.defn d0 false :: .data 0 parts0 [] :: rest) := by
  obtain ⟨b0, br, h0, hr, rfl⟩ := encodeBody_ok_fileId hwf h
  obtain ⟨pm, fs, partss, hw, hb0, hlen⟩ := encodeGroup_items hwf h0
  obtain ⟨blocks, rfl, hgb, _⟩ := groups_blocksOf (g := id) (fun _ _ _ hbs => encodeGroup_fitsAny hwf hbs) hr
  obtain ⟨parts0, rfl⟩ := List.length_eq_one_iff.mp hlen
  exact ⟨defOf arch f.fileId.num fs, parts0, _, rfl, rfl, by rw [hb0, ← serialize_append]; rfl,
    FitsAny.append (a := blockItems _ [parts0]) (hw.fitsAny hwf) (blocks_fitsAny hgb)⟩

open Fit.Crc

theorem encode_ok {P : Profile} {arch : Endian} {f f' : FileSt} {bs : Bytes} (h : encode P arch f = .ok bs f') :
    ∃ i body, f.cidx = some i ∧ P.initAns (fileTypeOf f) = .container i ∧
      encodeBody P arch f (P.containers.getD i default) = .ok body ∧
      bs = (finishEncode f body).1 ∧ f' = (finishEncode f body).2 := by
  unfold encode at h
  cases hia : P.initAns (fileTypeOf f) with
  | format => rw [hia] at h; cases h
  | notsupported => rw [hia] at h; cases h
  | container j =>
    cases hci : f.cidx with
    | none => simp only [hia, hci] at h; cases h
    | some i =>
      simp only [hia, hci] at h
      split at h
      · cases h
      · rename_i hij
        cases hbody : encodeBody P arch f (P.containers.getD i default) with
        | error e => rw [hbody] at h; cases e <;> cases h
        | ok body =>
          rw [hbody] at h
          injection h with h1 h2
          exact ⟨i, body, rfl, by rw [Decidable.not_not.mp hij], hbody, h1.symm, h2.symm⟩

theorem encode_eq_body {P : Profile} {arch : Endian} {f : FileSt} {i : Nat}
    (hc : f.cidx = some i) (ht : P.initAns (fileTypeOf f) = .container i) :
    encode P arch f = (match encodeBody P arch f (P.containers.getD i default) with
      | .error .error => .error
      | .error .panic => .panic
      | .ok body => .ok (finishEncode f body).1 (finishEncode f body).2) := by
  unfold encode
  rw [ht]
  simp only [hc, ne_eq, not_true_eq_false, ↓reduceIte]
  cases encodeBody P arch f (P.containers.getD i default) with
  | error e => cases e <;> rfl
  | ok b => rfl

theorem encodeBody_of_fail {P : Profile} {arch : Endian} {f : FileSt} {i : Nat}
    (hc : f.cidx = some i) (ht : P.initAns (fileTypeOf f) = .container i) :
    (encode P arch f = .panic → encodeBody P arch f (P.containers.getD i default) = .error .panic) ∧
    (encode P arch f = .error → encodeBody P arch f (P.containers.getD i default) = .error .error) := by
  rw [encode_eq_body hc ht]
  cases encodeBody P arch f (P.containers.getD i default) with
  | ok b => exact ⟨nofun, nofun⟩
  | error e =>
    cases e with
    | panic => exact ⟨fun _ => rfl, nofun⟩
    | error => exact ⟨nofun, fun _ => rfl⟩

/-- `marshalHeader` lays out `hdr12 ++ hdrExtra`: the twelve bytes, then for a 14-byte header their checksum -/
theorem finishEncode_frame (f : FileSt) (body : Bytes) (hs : f.hdr.size = headerSizeNoCRC ∨ f.hdr.size = headerSizeCRC)
    (ht : f.hdr.dtype = fitTag) (hl : body.length < 4294967296) :
    (finishEncode f body).1 = frameBytesK (kindOfSize f.hdr.size) f.hdr.proto f.hdr.profile body := by
  have htk : fitTag.take 4 = fitTag := rfl
  rcases hs with hs | hs
  · unfold finishEncode frameBytesK marshalHeader
    simp only [hs, ht, Nat.mod_eq_of_lt hl, htk]
    simp [natLE2_lo_hi, headerSizeCRC, headerSizeNoCRC, u8, kindOfSize, frameHdr, hdr12, hdrExtra, HdrKind.size]
  · unfold finishEncode frameBytesK marshalHeader
    simp only [hs, ↓reduceIte, ht, Nat.mod_eq_of_lt hl, htk]
    simp [natLE2_lo_hi, headerSizeCRC, u8, kindOfSize, frameHdr, hdr12, hdrExtra, HdrKind.size]

theorem encode_ok_frame {P : Profile} {arch : Endian} {f f' : FileSt} {bs : Bytes} (h : encode P arch f = .ok bs f')
    (hs : f.hdr.size = headerSizeNoCRC ∨ f.hdr.size = headerSizeCRC) (ht : f.hdr.dtype = fitTag)
    (hsmall : bs.length < 4294967296) :
    ∃ i body, f.cidx = some i ∧ P.initAns (fileTypeOf f) = .container i ∧
      encodeBody P arch f (P.containers.getD i default) = .ok body ∧ body.length < 4294967296 ∧
      bs = frameBytesK (kindOfSize f.hdr.size) f.hdr.proto f.hdr.profile body := by
  obtain ⟨i, body, hci, hia, hbody, rfl, _⟩ := encode_ok h
  have hblen : body.length < 4294967296 := by
    simp only [finishEncode, List.length_append] at hsmall
    omega
  exact ⟨i, body, hci, hia, hbody, hblen, finishEncode_frame f body hs ht hblen⟩

theorem encode_wellformed (P : Profile) (hwf : ProfileWF P = true) (arch : Endian) (f f' : FileSt) (bs : Bytes)
    (h : encode P arch f = .ok bs f') (hs : f.hdr.size = headerSizeNoCRC ∨ f.hdr.size = headerSizeCRC) (ht : f.hdr.dtype = fitTag)
    (hsmall : bs.length < 4294967296) :
    ∃ (d0 : DefMsg) (parts0 : List Bytes) (rest : List Item),
      d0.global = f.fileId.num ∧ d0.localT = 0 ∧
      bs = frameBytesK (kindOfSize f.hdr.size) f.hdr.proto f.hdr.profile (serialize (.defn d0 false :: .data 0 parts0 [] :: rest)) ∧
      ItemsFitD P (List.replicate 16 none) (.defn d0 false :: .data 0 parts0 [] :: rest) := by
  obtain ⟨i, body, _, _, hbody, _, rfl⟩ := encode_ok_frame h hs ht hsmall
  obtain ⟨d0, parts0, rest, hg, hl0, rfl, hfit⟩ := encodeBody_items hwf hbody
  exact ⟨d0, parts0, rest, hg, hl0, rfl, hfit _ (by simp)⟩

end Fit
