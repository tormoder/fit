import FitModel.Items
import FitProofs.Crc
import FitProofs.Routing
/-
  What the item machine does to the decoder state: one statement per function, so that a fact about a
  single component (headers, definition table, counters, bytes eaten) is a projection of it and not one
  more induction.  `Reads` says what reading inside a record can change at all; the same relation
  describes the states the byte parser's early exits carry.
-/
namespace Fit
open Fit.Crc

/-- what reading inside a record can do to the state; an over-approximation: `eat` allows any counter and checksum -/
inductive Reads (a : DecSt) : DecSt → Prop
  | refl : Reads a a
  | eat {b : DecSt} (n : Nat) (crc : BitVec 16) : Reads a b → Reads a { b with n := n, crc := crc }
  | ts {b : DecSt} (t l : Nat) : Reads a b → Reads a { b with timestamp := t, lastOff := l }
  | unkF {b : DecSt} (k : Nat × Nat) : Reads a b → Reads a { b with unkF := bump k b.unkF }
  | unkM {b : DecSt} (k : Nat) : Reads a b → Reads a { b with unkM := bump k b.unkM }

theorem Reads.trans {a b c : DecSt} (h1 : Reads a b) (h2 : Reads b c) : Reads a c := by
  induction h2 with
  | refl => exact h1
  | eat n crc _ ih => exact ih.eat n crc
  | ts t l _ ih => exact ih.ts t l
  | unkF k _ ih => exact ih.unkF k
  | unkM k _ ih => exact ih.unkM k

structure Reads.Untouched (a b : DecSt) : Prop where
  defs : b.defs = a.defs
  hdr : b.hdr = a.hdr
  file : b.file = a.file
  unkInit : b.unkInit = a.unkInit
  glob : b.glob = a.glob

theorem Reads.kept {a b : DecSt} (h : Reads a b) : Reads.Untouched a b := by
  induction h with
  | refl => exact ⟨rfl, rfl, rfl, rfl, rfl⟩
  | eat _ _ _ ih | ts _ _ _ ih | unkF _ _ ih | unkM _ _ ih => exact ⟨ih.1, ih.2, ih.3, ih.4, ih.5⟩

structure Ate (a : DecSt) (bs : Bytes) (b : DecSt) : Prop where
  n : b.n = a.n + bs.length
  crc : b.crc = update a.crc bs

theorem Ate.refl (a : DecSt) : Ate a [] a := ⟨rfl, rfl⟩

theorem Ate.eat (a : DecSt) (bs : Bytes) : Ate a bs (a.eat bs) := ⟨rfl, rfl⟩

theorem Ate.trans {a b c : DecSt} {x y : Bytes} (h1 : Ate a x b) (h2 : Ate b y c) : Ate a (x ++ y) c :=
  ⟨by rw [h2.1, h1.1, List.length_append, Nat.add_assoc], by rw [h2.2, h1.2, update_append]⟩

theorem DecSt.eat_rd (st : DecSt) (k : Nat) (bs : Bytes) (h : bs.length = k) :
    ({ st with n := st.n + k, crc := update st.crc bs } : DecSt) = st.eat bs := by
  simp only [DecSt.eat, h]

theorem DecSt.eat_eat (st : DecSt) (a b : Bytes) : (st.eat a).eat b = st.eat (a ++ b) := by
  simp only [DecSt.eat, List.length_append, update_append, Nat.add_assoc]

def FieldsFit : List FieldDef → List Bytes → Prop
  | [], [] => True
  | fd :: fds, raw :: raws => raw.length = fd.size ∧ FieldsFit fds raws
  | _, _ => False

def DevFit : List DevDesc → List Bytes → Prop
  | [], [] => True
  | d :: ds, raw :: raws => raw.length = d.size ∧ DevFit ds raws
  | _, _ => False

theorem flatten_length_fit (fds : List FieldDef) (raws : List Bytes) (h : FieldsFit fds raws) :
    raws.flatten.length = (fds.map (·.size)).sum := by
  induction fds generalizing raws with
  | nil => cases raws with
    | nil => rfl
    | cons _ _ => cases h
  | cons fd fds ih =>
    cases raws with
    | nil => cases h
    | cons raw raws =>
      simp only [List.flatten_cons, List.length_append, List.map_cons, List.sum_cons]
      rw [h.1, ih raws h.2]

/-- the (message, field) keys one data record of a known message counts: one per field read whose
    number the profile does not list -/
def unkFRec (P : Profile) (dm : DefMsg) : List FieldDef → List Bytes → List (Nat × Nat)
  | fd :: fds, _ :: raws =>
    (if (P.getField dm.global fd.num).isNone then [(dm.global, fd.num)] else []) ++ unkFRec P dm fds raws
  | _, _ => []

def bumpAll {κ} [BEq κ] (ks : List κ) (l : List (κ × Nat)) : List (κ × Nat) := ks.foldl (fun acc k => bump k acc) l

theorem bumpAll_append {κ} [BEq κ] (a b : List κ) (l : List (κ × Nat)) : bumpAll (a ++ b) l = bumpAll b (bumpAll a l) := by
  simp [bumpAll, List.foldl_append]

def fieldBump (P : Profile) (dm : DefMsg) (known : Bool) (fd : FieldDef) (st : DecSt) : DecSt :=
  if (P.getField dm.global fd.num).isNone ∧ known then { st with unkF := bump (dm.global, fd.num) st.unkF } else st

theorem fieldBump_keeps (P : Profile) (dm : DefMsg) (known : Bool) (fd : FieldDef) (st : DecSt) :
    ∃ uf, fieldBump P dm known fd st = { st with unkF := uf } := by
  unfold fieldBump
  split
  · exact ⟨_, rfl⟩
  · exact ⟨st.unkF, rfl⟩

theorem parseFields_cons (P : Profile) (dm : DefMsg) (known : Bool) (fd : FieldDef) (fds : List FieldDef) (m : Option Msg)
    (st : DecSt) (cont : Option Msg → DecSt → DP) :
    parseFields P dm known (fd :: fds) m st cont =
      rd (fieldBump P dm known fd st) fd.size fun raw st =>
        match applyField P dm known fd raw m st.ts with
        | .err => dfail st .other
        | .panic => dpanic st
        | .ok m ts => parseFields P dm known fds m (st.setTs ts) cont := rfl

def fieldSt (P : Profile) (dm : DefMsg) (known : Bool) (fd : FieldDef) (raw : Bytes) (st : DecSt) : DecSt :=
  { fieldBump P dm known fd st with
    n := (fieldBump P dm known fd st).n + fd.size, crc := update (fieldBump P dm known fd st).crc raw }

theorem stepFields_cons (P : Profile) (dm : DefMsg) (known : Bool) (fd : FieldDef) (fds : List FieldDef) (raw : Bytes)
    (raws : List Bytes) (m : Option Msg) (st : DecSt) :
    stepFields P dm known (fd :: fds) (raw :: raws) m st =
      match applyField P dm known fd raw m (fieldSt P dm known fd raw st).ts with
      | .err => .fail (fail (fieldSt P dm known fd raw st) .other)
      | .panic => .fail (panicOut (fieldSt P dm known fd raw st))
      | .ok m1 ts1 => stepFields P dm known fds raws m1 ((fieldSt P dm known fd raw st).setTs ts1) := rfl

structure FieldsRead (st st' : DecSt) (uf : List ((Nat × Nat) × Nat)) (fit : Prop) (bs : Bytes) : Prop where
  reads : Reads st st'
  unkM : st'.unkM = st.unkM
  unkF : st'.unkF = uf
  ate : fit → Ate st bs st'

theorem fieldSt_spec (P : Profile) (dm : DefMsg) (known : Bool) (fd : FieldDef) (raw : Bytes) (st : DecSt) :
    FieldsRead st (fieldSt P dm known fd raw st)
      (if known then bumpAll (if (P.getField dm.global fd.num).isNone then [(dm.global, fd.num)] else []) st.unkF
        else st.unkF)
      (raw.length = fd.size) raw := by
  unfold fieldSt fieldBump
  by_cases hc : (P.getField dm.global fd.num).isNone = true ∧ known = true
  · rw [if_pos hc, hc.2, hc.1]
    exact ⟨(Reads.refl.unkF _).eat _ _, rfl, rfl, fun hl => ⟨by rw [hl], rfl⟩⟩
  · rw [if_neg hc]
    refine ⟨.eat _ _ .refl, rfl, ?_, fun hl => ⟨by rw [hl], rfl⟩⟩
    cases known
    · rfl
    · rw [if_neg fun h => hc ⟨h, rfl⟩]
      rfl

theorem stepFields_spec {P : Profile} {dm : DefMsg} {known : Bool} {fds : List FieldDef} {raws : List Bytes}
    {m : Option Msg} {st : DecSt} {m' : Option Msg} {st' : DecSt}
    (h : stepFields P dm known fds raws m st = .ok m' st') :
    FieldsRead st st' (if known then bumpAll (unkFRec P dm fds raws) st.unkF else st.unkF) (FieldsFit fds raws)
      raws.flatten := by
  induction fds generalizing raws m st with
  | nil =>
    simp only [stepFields] at h
    cases h
    refine ⟨.refl, rfl, by cases known <;> rfl, fun hfit => ?_⟩
    cases raws with
    | nil => exact Ate.refl _
    | cons _ _ => cases hfit
  | cons fd fds ih =>
    cases raws with
    | nil =>
      simp only [stepFields] at h
      cases h
      exact ⟨.refl, rfl, by cases known <;> rfl, fun hfit => by cases hfit⟩
    | cons raw raws =>
      rw [stepFields_cons] at h
      have s0 := fieldSt_spec P dm known fd raw st
      split at h
      · cases h
      · cases h
      · rename_i _ ts1 _
        have s := ih h
        refine ⟨(s0.reads.ts _ _).trans s.reads, s.unkM.trans s0.unkM, ?_, fun hfit =>
          (s0.ate hfit.1).trans ⟨(s.ate hfit.2).n, (s.ate hfit.2).crc⟩⟩
        have a2' : ((fieldSt P dm known fd raw st).setTs ts1).unkF = _ := s0.unkF
        rw [s.unkF, a2']
        cases known
        · rfl
        · simp only [↓reduceIte, unkFRec, bumpAll_append]

theorem stepDev_spec (ds : List DevDesc) (raws : List Bytes) (st : DecSt) :
    stepDev ds raws st = { st with n := (stepDev ds raws st).n, crc := (stepDev ds raws st).crc } ∧
    (DevFit ds raws → Ate st raws.flatten (stepDev ds raws st)) := by
  induction ds generalizing raws st with
  | nil => exact ⟨by simp [stepDev], fun hfit => by cases raws with
    | nil => exact Ate.refl _
    | cons _ _ => cases hfit⟩
  | cons d ds ih =>
    cases raws with
    | nil => exact ⟨by simp [stepDev], fun hfit => by cases hfit⟩
    | cons raw raws =>
      unfold stepDev
      obtain ⟨e1, e2⟩ := ih raws { st with n := st.n + d.size, crc := update st.crc raw }
      refine ⟨by rw [e1], fun hfit => ?_⟩
      refine Ate.trans ?_ (e2 hfit.2)
      rw [DecSt.eat_rd st d.size raw hfit.1]
      exact Ate.eat _ _

/-- the end of the prelude under a compressed-timestamp header: the advanced reference `ts` is stored in the
    message's timestamp field, if the message has one -/
def stampHead {α : Type} (P : Profile) (dm : DefMsg) (m : Option Msg) (st : DecSt) (ts : Nat)
    (stop : Bool → DecSt → α) (go : DefMsg → Option Msg → DecSt → α) : α :=
  match P.getField dm.global fieldNumTimeStamp with
  | none => go dm m st
  | some pf =>
    match m, P.msg? dm.global with
    | some msg, some pm =>
      match pm.layout[pf.sindex]? with
      | some .time => go dm (some { msg with vals := setAt msg.vals pf.sindex (.t (Int.ofNat ts) 0 0) }) st
      | _ => stop true st
    | _, _ => stop true st

/-- `parseDataMessage` up to the field loop, abstracted over how to give up (`stop`) and how to go on (`go`): a copy
    of the model's text, kept in step with `parseData` and `stepData` by two `rfl`s -/
def dataHead {α : Type} (P : Profile) (hb : Nat) (compressed : Bool) (st : DecSt)
    (stop : Bool → DecSt → α) (go : DefMsg → Option Msg → DecSt → α) : α :=
  let localT := if compressed then (hb / 32) % 4 else hb % 16
  let useTs : Bool := compressed && decide (st.timestamp ≠ 0)
  match st.defs.getD localT none with
  | none => stop false st
  | some dm =>
    let known := P.known dm.global
    let ctor := match P.msg? dm.global with
      | some pm => if pm.hasCtor then some (Msg.mk dm.global pm.invalid) else none
      | none => none
    if known ∧ ctor.isNone then stop true st
    else
      let m : Option Msg := if known then ctor else none
      let st := if !known then { st with unkM := bump dm.global st.unkM } else st
      if !useTs then go dm m st
      else
        let off := hb % 32
        let ts : Nat := tsAdvance st.timestamp st.lastOff off
        stampHead P dm m { st with timestamp := ts, lastOff := off } ts stop go

inductive DataPre
  | stop (panic : Bool) (st : DecSt)
  | go (dm : DefMsg) (m : Option Msg) (st : DecSt)

def dataPre (P : Profile) (hb : Nat) (compressed : Bool) (st : DecSt) : DataPre :=
  dataHead P hb compressed st .stop .go

theorem stampHead_map {α : Type} {β : Sort _} (f : α → β) (P : Profile) (dm : DefMsg) (m : Option Msg) (st : DecSt)
    (ts : Nat) (stop : Bool → DecSt → α) (go : DefMsg → Option Msg → DecSt → α) :
    f (stampHead P dm m st ts stop go) =
      stampHead P dm m st ts (fun p st' => f (stop p st')) (fun dm m st' => f (go dm m st')) := by
  unfold stampHead
  repeat' (first | rfl | split)

theorem dataHead_map {α : Type} {β : Sort _} (f : α → β) (P : Profile) (hb : Nat) (compressed : Bool) (st : DecSt)
    (stop : Bool → DecSt → α) (go : DefMsg → Option Msg → DecSt → α) :
    f (dataHead P hb compressed st stop go) =
      dataHead P hb compressed st (fun p st' => f (stop p st')) (fun dm m st' => f (go dm m st')) := by
  unfold dataHead
  dsimp only
  cases st.defs.getD (if compressed = true then hb / 32 % 4 else hb % 16) none with
  | none => rfl
  | some dm =>
    dsimp only
    rw [apply_ite f, apply_ite f, stampHead_map f]

theorem dataHead_eq {α : Type} (P : Profile) (hb : Nat) (compressed : Bool) (st : DecSt)
    (stop : Bool → DecSt → α) (go : DefMsg → Option Msg → DecSt → α) :
    dataHead P hb compressed st stop go =
      match dataPre P hb compressed st with
      | .stop p st' => stop p st'
      | .go dm m st' => go dm m st' :=
  (dataHead_map (fun r => match r with
    | .stop p st' => stop p st'
    | .go dm m st' => go dm m st') P hb compressed st DataPre.stop DataPre.go).symm

theorem dataPre_none (P : Profile) (hb : Nat) (compressed : Bool) (st : DecSt)
    (h : st.defs.getD (if compressed then (hb / 32) % 4 else hb % 16) none = none) :
    dataPre P hb compressed st = .stop false st := by
  unfold dataPre dataHead
  dsimp only
  rw [h]

/-! `stepData` is `dataHead` with two ways out: `giveUp p` (`p`: with a panic) and `afterHead`. -/

def giveUp (p : Bool) (st : DecSt) : StepRes := .stop (bif p then panicOut st else fail st .other)

def afterHead (P : Profile) (fields dev : List Bytes) (dm : DefMsg) (m : Option Msg) (st : DecSt) : StepRes :=
  match stepFields P dm (P.known dm.global) dm.fields fields m st with
  | .fail o => .stop o
  | .ok m st =>
    match addMsg P m (stepDev dm.dev dev st) with
    | none => .stop (panicOut (stepDev dm.dev dev st))
    | some st => .ok st

theorem stepData_head (P : Profile) (hb : Nat) (c : Bool) (fs dev : List Bytes) (st : DecSt) :
    stepData P hb c fs dev st = dataHead P hb c st giveUp (afterHead P fs dev) := rfl

theorem stepData_pre (P : Profile) (hb : Nat) (compressed : Bool) (fields dev : List Bytes) (st : DecSt) :
    stepData P hb compressed fields dev st =
      match dataPre P hb compressed st with
      | .stop p st' => giveUp p st'
      | .go dm m st' => afterHead P fields dev dm m st' := by
  rw [stepData_head, dataHead_eq]

structure DataPre.Go (P : Profile) (hb : Nat) (compressed : Bool) (st : DecSt) (dm : DefMsg) (m : Option Msg)
    (st' : DecSt) : Prop where
  reads : Reads st st'
  n : st'.n = st.n
  crc : st'.crc = st.crc
  unkF : st'.unkF = st.unkF
  look : st.defs.getD (if compressed then (hb / 32) % 4 else hb % 16) none = some dm
  unkM : st'.unkM = (if P.known dm.global then st.unkM else bump dm.global st.unkM)
  msg : P.known dm.global = true → ∃ msg, m = some msg ∧ msg.num = dm.global
  none_of_unknown : P.known dm.global = false → m = none
  vals : ∀ msg, m = some msg → ∃ pm, P.msg? dm.global = some pm ∧ msg.num = dm.global ∧
    (msg.vals = pm.invalid ∨ ∃ pf ts, P.getField dm.global fieldNumTimeStamp = some pf ∧
      pm.layout[pf.sindex]? = some .time ∧ msg.vals = setAt pm.invalid pf.sindex (.t ts 0 0))

/-- a known message without constructor, or one that cannot take the compressed timestamp -/
def DataPre.Panics (P : Profile) (dm : DefMsg) : Prop :=
  (P.known dm.global = true ∧ ∀ pm, P.msg? dm.global = some pm → pm.hasCtor = false) ∨
  ∃ pf, P.getField dm.global fieldNumTimeStamp = some pf ∧
    ¬ ∃ pm, P.known dm.global = true ∧ P.msg? dm.global = some pm ∧ pm.hasCtor = true ∧
      pm.layout[pf.sindex]? = some .time

private def DataPre.Spec (P : Profile) (hb : Nat) (compressed : Bool) (st : DecSt) : DataPre → Prop
  | .stop p st' => Reads st st' ∧ (p = true → ∃ dm,
      st.defs.getD (if compressed then (hb / 32) % 4 else hb % 16) none = some dm ∧ DataPre.Panics P dm)
  | .go dm m st' => DataPre.Go P hb compressed st dm m st'

private theorem dataPre_spec (P : Profile) (hb : Nat) (compressed : Bool) (st : DecSt) :
    (dataPre P hb compressed st).Spec P hb compressed st := by
  unfold dataPre
  rw [dataHead_map (DataPre.Spec P hb compressed st)]
  unfold dataHead
  dsimp only
  split
  · exact ⟨.refl, fun h => nomatch h⟩
  · rename_i dm hd
    generalize hctor : (match P.msg? dm.global with
      | some pm => if pm.hasCtor then some (Msg.mk dm.global pm.invalid) else none
      | none => none) = ctor
    have hc : ∀ msg, ctor = some msg → ∃ pm, P.msg? dm.global = some pm ∧ pm.hasCtor = true ∧
        msg = ⟨dm.global, pm.invalid⟩ := by
      subst hctor
      intro msg h
      split at h
      · rename_i pm hpm
        split at h
        · cases h; exact ⟨pm, hpm, ‹_›, rfl⟩
        · cases h
      · cases h
    have hnum : ∀ msg, ctor = some msg → msg.num = dm.global := fun msg h => by
      obtain ⟨_, _, _, rfl⟩ := hc msg h; rfl
    -- whatever happens next, the state is `st` with the message number counted if it is unknown
    -- and, under a compressed header with a reference, the reference advanced
    have base : ∀ st2, st2 = (if (!P.known dm.global) = true then { st with unkM := bump dm.global st.unkM } else st) →
        Reads st st2 ∧ st2.n = st.n ∧ st2.crc = st.crc ∧ st2.unkF = st.unkF ∧
        st2.unkM = (if P.known dm.global then st.unkM else bump dm.global st.unkM) := by
      intro st2 e
      subst e
      cases P.known dm.global
      · exact ⟨.unkM _ .refl, rfl, rfl, rfl, rfl⟩
      · exact ⟨.refl, rfl, rfl, rfl, rfl⟩
    obtain ⟨r, b1, b2, b3, b4⟩ := base _ rfl
    have hm0 : ¬ (P.known dm.global = true ∧ ctor.isNone = true) → P.known dm.global = true →
        ∃ msg, (if P.known dm.global = true then ctor else none) = some msg ∧ msg.num = dm.global := by
      intro hn hk
      rw [if_pos hk]
      cases ctor with
      | none => exact absurd ⟨hk, rfl⟩ hn
      | some msg => exact ⟨msg, rfl, hnum msg rfl⟩
    have hun : P.known dm.global = false → (if P.known dm.global = true then ctor else none) = none :=
      fun hk => by rw [hk]; rfl
    have hv : ∀ msg, (if P.known dm.global = true then ctor else none) = some msg →
        ∃ pm, P.msg? dm.global = some pm ∧ pm.hasCtor = true ∧ msg = ⟨dm.global, pm.invalid⟩ := by
      intro msg h
      split at h
      · exact hc msg h
      · cases h
    have hv0 : ∀ msg, (if P.known dm.global = true then ctor else none) = some msg →
        ∃ pm, P.msg? dm.global = some pm ∧ msg.num = dm.global ∧
          (msg.vals = pm.invalid ∨ ∃ pf ts, P.getField dm.global fieldNumTimeStamp = some pf ∧
            pm.layout[pf.sindex]? = some .time ∧ msg.vals = setAt pm.invalid pf.sindex (.t ts 0 0)) := by
      intro msg h
      obtain ⟨pm, hpm, _, rfl⟩ := hv msg h
      exact ⟨pm, hpm, rfl, .inl rfl⟩
    split
    · rename_i hkc
      refine ⟨.refl, fun _ => ⟨dm, hd, .inl ⟨hkc.1, fun pm hpm => ?_⟩⟩⟩
      have h2 := hkc.2
      subst hctor
      rw [hpm] at h2
      dsimp only at h2
      cases hh : pm.hasCtor
      · rfl
      · rw [hh, if_pos rfl] at h2; cases h2
    · rename_i hn
      split
      · exact ⟨r, b1, b2, b3, hd, b4, hm0 hn, hun, hv0⟩
      · unfold stampHead
        split
        · exact ⟨r.ts _ _, b1, b2, b3, hd, b4, hm0 hn, hun, hv0⟩
        · rename_i pf hgf
          split
          · rename_i msg pm hmsg hpm
            obtain ⟨pm', hpm', hct, rfl⟩ := hv msg hmsg
            rw [hpm] at hpm'
            cases hpm'
            split
            · rename_i hsl
              refine ⟨r.ts _ _, b1, b2, b3, hd, b4, fun _ => ⟨_, rfl, rfl⟩, ?_, ?_⟩
              · intro hk
                rw [hun hk] at hmsg
                cases hmsg
              · intro msg' e
                cases e
                exact ⟨pm, hpm, rfl, .inr ⟨pf, _, hgf, hsl, rfl⟩⟩
            · rename_i hsl
              refine ⟨r.ts _ _, fun _ => ⟨dm, hd, .inr ⟨pf, hgf, fun ⟨pm', _, hpm', _, hs'⟩ => ?_⟩⟩⟩
              rw [hpm] at hpm'
              cases hpm'
              exact hsl hs'
          · rename_i hno
            refine ⟨r.ts _ _, fun _ => ⟨dm, hd, .inr ⟨pf, hgf, fun ⟨pm', hk, hpm', hct, _⟩ => ?_⟩⟩⟩
            have hcs : ctor = some ⟨dm.global, pm'.invalid⟩ := by
              subst hctor
              rw [hpm']
              dsimp only
              rw [if_pos hct]
            exact hno _ _ (by rw [if_pos hk, hcs]) hpm'

theorem dataPre_stop {P : Profile} {hb : Nat} {c : Bool} {st st' : DecSt} {p : Bool}
    (h : dataPre P hb c st = .stop p st') : Reads st st' := by
  have hs := dataPre_spec P hb c st
  rw [h] at hs
  exact hs.1

theorem dataPre_panic {P : Profile} {hb : Nat} {c : Bool} {st st' : DecSt}
    (h : dataPre P hb c st = .stop true st') :
    ∃ dm, st.defs.getD (if c then (hb / 32) % 4 else hb % 16) none = some dm ∧ DataPre.Panics P dm := by
  have hs := dataPre_spec P hb c st
  rw [h] at hs
  exact hs.2 rfl

theorem dataPre_go {P : Profile} {hb : Nat} {c : Bool} {st st' : DecSt} {dm : DefMsg} {m : Option Msg}
    (h : dataPre P hb c st = .go dm m st') : DataPre.Go P hb c st dm m st' := by
  have hs := dataPre_spec P hb c st
  rw [h] at hs
  exact hs

theorem dataPre_plain {P : Profile} {hb : Nat} {st : DecSt} {dm : DefMsg} {pm : PMsg}
    (hlook : st.defs.getD (hb % 16) none = some dm) (hkn : P.known dm.global = true)
    (hpm : P.msg? dm.global = some pm) (hctor : pm.hasCtor = true) :
    dataPre P hb false st = .go dm (some ⟨dm.global, pm.invalid⟩) st := by
  unfold dataPre dataHead
  simp only [Bool.false_eq_true, ↓reduceIte, hlook, hkn, hpm, hctor, Option.isNone_some, and_false,
    Bool.false_and, Bool.not_false, Bool.not_true]

def DecSt.fhdr (st : DecSt) : Option Header := st.file.map (·.hdr)

theorem addMsg_some {P : Profile} {msg : Msg} {st st' : DecSt} :
    addMsg P (some msg) st = some st' ↔
      ∃ f f' g', st.file = some f ∧ f.add P msg st.glob = some (f', g') ∧ st' = { st with file := some f', glob := g' } := by
  unfold addMsg
  cases hf : st.file with
  | none => exact ⟨(fun h => nomatch h), fun ⟨_, _, _, h, _⟩ => nomatch h⟩
  | some f =>
    dsimp only
    cases ha : f.add P msg st.glob with
    | none =>
      refine ⟨(fun h => nomatch h), fun ⟨_, _, _, h0, h1, _⟩ => ?_⟩
      cases h0
      rw [ha] at h1
      cases h1
    | some fg =>
      obtain ⟨f', g'⟩ := fg
      dsimp only
      constructor
      · intro h
        exact ⟨f, f', g', rfl, ha, (Option.some.inj h).symm⟩
      · rintro ⟨_, _, _, h0, h1, rfl⟩
        cases h0
        rw [ha] at h1
        cases h1
        rfl

theorem addMsg_keeps {P : Profile} {m : Option Msg} {st st' : DecSt} (h : addMsg P m st = some st') :
    st' = { st with file := st'.file, glob := st'.glob } ∧ st'.fhdr = st.fhdr := by
  cases m with
  | none => cases h; exact ⟨rfl, rfl⟩
  | some msg =>
    obtain ⟨f, f', g', hf, hadd, rfl⟩ := addMsg_some.1 h
    exact ⟨rfl, by simp only [DecSt.fhdr, hf, Option.map_some, (add_iff.mp hadd).kept.1]⟩

def DataFit (st : DecSt) (hb : Nat) (compressed : Bool) (fields dev : List Bytes) : Prop :=
  ∀ dm, st.defs.getD (if compressed then (hb / 32) % 4 else hb % 16) none = some dm →
    FieldsFit dm.fields fields ∧ DevFit dm.dev dev

theorem stepData_ok {P : Profile} {hb : Nat} {c : Bool} {fs dev : List Bytes} {st st' : DecSt}
    (h : stepData P hb c fs dev st = .ok st') :
    ∃ dm m st1 m2 st2, dataPre P hb c st = .go dm m st1 ∧
      stepFields P dm (P.known dm.global) dm.fields fs m st1 = .ok m2 st2 ∧
      addMsg P m2 (stepDev dm.dev dev st2) = some st' := by
  rw [stepData_pre] at h
  cases hp : dataPre P hb c st with
  | stop p st1 => rw [hp] at h; cases h
  | go dm m st1 =>
    rw [hp] at h
    dsimp only [afterHead] at h
    cases hsf : stepFields P dm (P.known dm.global) dm.fields fs m st1 with
    | fail o => rw [hsf] at h; cases h
    | ok m2 st2 =>
      rw [hsf] at h
      dsimp only at h
      cases ha : addMsg P m2 (stepDev dm.dev dev st2) with
      | none => rw [ha] at h; cases h
      | some st3 => rw [ha] at h; cases h; exact ⟨dm, m, st1, m2, st2, rfl, hsf, ha⟩

/-- `st'` is `st` after accepted items that leave the table `tbl`, count `ms` and `fs` and, if `fit`, eat `bs`;
    timestamp reference, File contents and accumulators are not described -/
structure Stepped (st st' : DecSt) (tbl : List (Option DefMsg)) (ms : List Nat) (fs : List (Nat × Nat))
    (fit : Prop) (bs : Bytes) : Prop where
  hdr : st'.hdr = st.hdr
  fhdr : st'.fhdr = st.fhdr
  defs : st'.defs = tbl
  unkM : st'.unkM = bumpAll ms st.unkM
  unkF : st'.unkF = bumpAll fs st.unkF
  ate : fit → Ate st bs st'

theorem Stepped.imp {a b : DecSt} {t : List (Option DefMsg)} {m : List Nat} {f : List (Nat × Nat)} {p q : Prop} {x : Bytes}
    (h : Stepped a b t m f p x) (hqp : q → p) : Stepped a b t m f q x :=
  ⟨h.hdr, h.fhdr, h.defs, h.unkM, h.unkF, fun hq => h.ate (hqp hq)⟩

theorem Stepped.trans {a b c : DecSt} {t1 t2 : List (Option DefMsg)} {m1 m2 : List Nat} {f1 f2 : List (Nat × Nat)}
    {p1 p2 : Prop} {x y : Bytes} (h1 : Stepped a b t1 m1 f1 p1 x) (h2 : Stepped b c t2 m2 f2 p2 y) :
    Stepped a c t2 (m1 ++ m2) (f1 ++ f2) (p1 ∧ p2) (x ++ y) :=
  ⟨h2.hdr.trans h1.hdr, h2.fhdr.trans h1.fhdr, h2.defs, by rw [h2.unkM, h1.unkM, bumpAll_append],
    by rw [h2.unkF, h1.unkF, bumpAll_append], fun h => (h1.ate h.1).trans (h2.ate h.2)⟩

theorem stepData_spec {P : Profile} {hb : Nat} {c : Bool} {fs dev : List Bytes} {st st' : DecSt}
    (h : stepData P hb c fs dev st = .ok st') :
    ∃ dm, st.defs.getD (if c then hb / 32 % 4 else hb % 16) none = some dm ∧
      Stepped st st' st.defs (if P.known dm.global then [] else [dm.global])
        (if P.known dm.global then unkFRec P dm dm.fields fs else []) (DataFit st hb c fs dev)
        (fs.flatten ++ dev.flatten) := by
  obtain ⟨dm, m, st1, m2, st2, hp, hsf, ha⟩ := stepData_ok h
  have s1 := dataPre_go hp
  have s2 := stepFields_spec hsf
  obtain ⟨e3, a3⟩ := stepDev_spec dm.dev dev st2
  obtain ⟨e4, h4⟩ := addMsg_keeps ha
  have k := (s1.reads.trans s2.reads).kept
  refine ⟨dm, s1.look, ?_, ?_, ?_, ?_, ?_, fun hfit => ?_⟩
  · rw [e4, e3]; exact k.hdr
  · rw [h4, e3]; exact congrArg (Option.map _) k.file
  · rw [e4, e3]; exact k.defs
  · rw [e4, e3]
    refine (s2.unkM.trans s1.unkM).trans ?_
    cases P.known dm.global <;> rfl
  · rw [e4, e3]
    refine (s2.unkF.trans ?_)
    rw [s1.unkF]
    cases P.known dm.global <;> rfl
  · obtain ⟨hf, hdv⟩ := hfit dm s1.look
    have := (s2.ate hf).trans (a3 hdv)
    exact ⟨by rw [e4]; exact this.n.trans (by rw [s1.n]), by rw [e4]; exact this.crc.trans (by rw [s1.crc])⟩

def FieldDef.small (f : FieldDef) : Prop := f.num < 256 ∧ f.size < 256 ∧ f.btype < 256
def DevDesc.small (f : DevDesc) : Prop := f.num < 256 ∧ f.size < 256 ∧ f.idx < 256

/-- a definition item that can be written as bytes: every number fits the field the record format gives it -/
structure DefnWF (d : DefMsg) (devBit : Bool) : Prop where
  localT : d.localT < 16
  global : d.global < 65536
  nfields : d.fields.length < 256
  fields : ∀ f ∈ d.fields, f.small
  ndev : devBit = true → d.dev.length < 256
  dev : devBit = true → ∀ f ∈ d.dev, f.small

def ItemOK (st : DecSt) : Item → Prop
  | .defn d devBit => DefnWF d devBit
  | .data l fs dev => l < 16 ∧ ∀ dm, st.defs.getD l none = some dm → FieldsFit dm.fields fs ∧ DevFit dm.dev dev
  | .cdata l off fs dev => l < 4 ∧ off < 32 ∧
      ∀ dm, st.defs.getD l none = some dm → FieldsFit dm.fields fs ∧ DevFit dm.dev dev

def ItemsFit (P : Profile) : DecSt → List Item → Prop
  | _, [] => True
  | st, it :: its => ItemOK st it ∧ ∀ st', stepItem P st it = .ok st' → ItemsFit P st' its

/-- the definition table after an item: changed only by a definition item the machine accepts -/
def defsAfter (P : Profile) (defs : List (Option DefMsg)) : Item → List (Option DefMsg)
  | .defn d devBit =>
    if d.global = mesgNumInvalid ∨ (!(d.fields.all (validateFieldDef P d.global))) = true then defs
    else setAt defs d.localT (some (if devBit then d else { d with dev := [] }))
  | _ => defs

def ItemOKD (defs : List (Option DefMsg)) : Item → Prop
  | .defn d devBit => DefnWF d devBit
  | .data l fs dev => l < 16 ∧ ∀ dm, defs.getD l none = some dm → FieldsFit dm.fields fs ∧ DevFit dm.dev dev
  | .cdata l off fs dev => l < 4 ∧ off < 32 ∧ ∀ dm, defs.getD l none = some dm → FieldsFit dm.fields fs ∧ DevFit dm.dev dev

/-- `ItemsFit` threads the machine's state, `ItemsFitD` (like `ItemOKD`) only the definition table: it can be checked
    without running the machine -/
def ItemsFitD (P : Profile) : List (Option DefMsg) → List Item → Prop
  | _, [] => True
  | defs, it :: its => ItemOKD defs it ∧ ItemsFitD P (defsAfter P defs it) its

theorem DefMsg.dev_nil {d : DefMsg} (h : d.dev = []) : { d with dev := [] } = d := by
  cases d
  cases h
  rfl

theorem DefMsg.stored_localT (d : DefMsg) (b : Bool) : (if b then d else { d with dev := [] }).localT = d.localT := by
  cases b <;> rfl

theorem serializeItem_pos (it : Item) : 0 < (serializeItem it).length := by
  cases it <;> simp [serializeItem]

theorem ItemOK.data_fit {st : DecSt} {l : Nat} {fs dev : List Bytes} (h : ItemOK st (.data l fs dev)) :
    DataFit st l false fs dev := fun dm hdm => h.2 dm (by
  rw [← hdm]
  simp only [Bool.false_eq_true, ↓reduceIte, Nat.mod_eq_of_lt h.1])

theorem ItemOK.cdata_fit {st : DecSt} {l off : Nat} {fs dev : List Bytes} (h : ItemOK st (.cdata l off fs dev)) :
    DataFit st (0x80 + l * 32 + off) true fs dev := fun dm hdm => h.2.2 dm (by
  rw [← hdm]
  have : (0x80 + l * 32 + off) / 32 % 4 = l := by have := h.1; have := h.2.1; omega
  simp only [↓reduceIte, this])

end Fit
