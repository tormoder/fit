import FitModel.Items
import FitModel.Gen.Profile
import FitProofs.ExpandEq
import FitProofs.ExpandEvent
import FitProofs.RunningSum
/-!
  C18 — component fields expand per profile, with per-file accumulation.

  `expand` (FitModel/File.lean) follows the generated `expandComponents` methods statement by
  statement, including three deviations from the profile's component rules that are recorded as
  known findings (D10, D11, D12 in DESIGN.md): the theorems `…_counterexample` exhibit them,
  `…_partial` theorems state what holds.  `expand_eq_spec` shows that nothing else separates the code
  from a rule-driven reading of the profile; `record_distance_running_sum` (FitProofs/RunningSum.lean)
  is the property's last sentence for a list of records.
-/
namespace Fit.Props.C18
open Fit

theorem invalid_source_untouched (pm : PMsg) (m : Msg) (src dst : String) (inv si : Nat)
    (hs : pm.idx src = some si) (hv : m.getU si = some inv) :
    copyIfValid pm m src dst inv = m :=
  onValid_of_invalid fun _ h => Option.some.inj (hs.symm.trans h) ▸ hv

/-- A valid source is copied, zero-extended, into its destination and nothing else changes. -/
theorem valid_source_copied (pm : PMsg) (m : Msg) (src dst : String) (inv si di v : Nat)
    (hs : pm.idx src = some si) (hd : pm.idx dst = some di) (hv : m.getU si = some v) (hne : v ≠ inv) :
    copyIfValid pm m src dst inv = m.setU di v :=
  onValid_of_valid hs hd hv hne

/-- the two 12-bit halves of compressed_speed_distance as the profile defines them -/
def csdSpeed (b0 b1 : Nat) : Nat := (b0 + 256 * b1) % 4096
def csdDistance (b1 b2 : Nat) : Nat := (b1 / 16 + 16 * b2) % 4096

/-- speed = low 12 bits of the 24-bit little-endian value (bytes < 256) -/
theorem csd_speed_slice (b0 b1 : Nat) (h0 : b0 < 256) (h1 : b1 < 256) :
    (b0 ||| ((b1 &&& 0x0F) <<< 8)) = csdSpeed b0 b1 :=
  csd_speed_bits b0 b1 h0

/-- D10 (known finding): the distance half loses its top four bits, because `byte << 4` is
    evaluated in uint8 before the conversion to uint32 … -/
theorem csd_distance_counterexample :
    ((0x12 >>> 4) ||| ((0xAB <<< 4) % 256)) = 0xB1 ∧ csdDistance 0x12 0xAB = 0xAB1 := by decide

/-- … so the expanded distance is right exactly when the high nibble of byte 2 is clear. -/
theorem csd_distance_partial (b1 b2 : Nat) (h1 : b1 < 256) (h2 : b2 < 16) :
    ((b1 >>> 4) ||| ((b2 <<< 4) % 256)) = csdDistance b1 b2 := by
  rw [csd_distance_bits b1 b2 h1, csdDistance]
  omega

/-- A correctly constructed accumulator adds the rollover-corrected delta modulo 2^bits. -/
theorem accumulate_spec (bits : Nat) (a : Accu) (v : Nat) (hm : a.mask = 2 ^ bits - 1) (hb : bits ≤ 32)
    (hv : v < 2 ^ 32) (hl : a.last < 2 ^ 32) :
    (a.accumulate v).2 = (a.value + (v + 2 ^ 32 - a.last) % 2 ^ bits) % 2 ^ 32 ∧
    (a.accumulate v).1.last = v :=
  ⟨Accu.accumulate_step bits a v hm hb, Accu.accumulate_last a v⟩

/-- D11 (known finding): total_cycles and accumulated_power use `new(uint32Accumulator)`, whose
    mask is 0, so the accumulated value never moves. -/
theorem accumulator_mask_counterexample (v : Nat) :
    (Accu.zero.accumulate v).2 = 0 := by
  simp [Accu.accumulate, Accu.zero]

/-- D12 (known finding): the accumulators are package-level; a second file starts from the first
    file's state instead of zero. -/
theorem accumulator_lifetime_counterexample :
    let a1 := ((Accu.new 12).accumulate 100).1      -- state left behind by file 1
    (a1.accumulate 50).2 ≠ ((Accu.new 12).accumulate 50).2 := by decide

/-- the event kinds with component rules, as in the profile -/
theorem event_constants : evSportPoint = Gen.evSportPoint ∧ evFrontGearChange = Gen.evFrontGearChange ∧
    evRearGearChange = Gen.evRearGearChange := by decide

theorem gear_bytes (pm : PMsg) (m : Msg) (d a b c e : Nat) (hd : d ≠ 0xFFFFFFFF)
    (h1 : pm.idx "RearGearNum" = some a) (h2 : pm.idx "RearGear" = some b)
    (h3 : pm.idx "FrontGearNum" = some c) (h4 : pm.idx "FrontGear" = some e) :
    expandEventData pm m d evRearGearChange =
      (((m.setU a (d % 256)).setU b ((d / 256) % 256)).setU c ((d / 65536) % 256)).setU e ((d / 16777216) % 256) := by
  unfold expandEventData
  simp [hd, h1, h2, h3, h4, evRearGearChange, evSportPoint]

theorem score_halves (pm : PMsg) (m : Msg) (d s o : Nat) (hd : d ≠ 0xFFFFFFFF)
    (h1 : pm.idx "Score" = some s) (h2 : pm.idx "OpponentScore" = some o) :
    expandEventData pm m d evSportPoint = (m.setU s (d % 65536)).setU o ((d / 65536) % 65536) := by
  unfold expandEventData
  simp [hd, h1, h2]

theorem event_invalid_untouched (pm : PMsg) (m : Msg) (ev : Nat) :
    expandEventData pm m 0xFFFFFFFF ev = m := by
  simp [expandEventData]

/-- every component field the model refers to exists in the regenerated message structs -/
theorem gen_component_fields_exist :
    (["Altitude", "EnhancedAltitude", "Speed", "EnhancedSpeed", "CompressedSpeedDistance", "Distance",
      "Cycles", "TotalCycles", "CompressedAccumulatedPower", "AccumulatedPower"].all
        fun n => (Gen.m20.idx n).isSome) = true ∧
    (["AvgSpeed", "EnhancedAvgSpeed", "MaxSpeed", "EnhancedMaxSpeed", "AvgAltitude", "EnhancedAvgAltitude",
      "MaxAltitude", "EnhancedMaxAltitude", "MinAltitude", "EnhancedMinAltitude"].all
        fun n => (Gen.m18.idx n).isSome && (Gen.m19.idx n).isSome) = true ∧
    (["AvgAltitude", "EnhancedAvgAltitude", "MaxAltitude", "EnhancedMaxAltitude", "MinAltitude",
      "EnhancedMinAltitude"].all fun n => (Gen.m142.idx n).isSome) = true ∧
    (["Event", "Data16", "Data", "Score", "OpponentScore", "RearGearNum", "RearGear", "FrontGearNum",
      "FrontGear"].all fun n => (Gen.m21.idx n).isSome) = true := by decide +kernel

/-- routing one of the five component-bearing message kinds into a container that holds it
    leaves the accumulators as `expand` leaves them, whatever the container (the correspondence
    run checks all containers of the real code). -/
theorem containers_expand (P : Profile) (c : Container) (sl : List (List Msg)) (m : Msg) (g : Globals) (i : Nat)
    (hs : slotFor c m.num = some i) (he : m.num ∈ expandSet) :
    (containerAdd P c sl m g).2 = (expand P m g).2 := by
  rw [containerAdd_some sl g hs, expandMsg_eq_expand]

/-- **lap, session and segment_lap: the transcribed expansion is the profile's rules.** For every
    message of these kinds whose 16-bit speed / altitude sources hold 16-bit values (what the
    decoder stores, or the constructor's invalid value), `expand` equals the generic interpretation
    `expandSpec` of the profile's component rules (source, destination, bit width), whatever
    deviations are switched on (they only concern record). -/
theorem expand_eq_rules_lap_session_segment (q : XSpec.Quirks) (P : Profile) (m : Msg) (g : Globals) (pm : PMsg)
    (hpm : P.msg? m.num = some pm)
    (hnum : m.num = mnSession ∨ m.num = mnLap ∨ m.num = mnSegmentLap)
    (h1 : ∀ si, pm.idx "AvgSpeed" = some si → Src16 m si)
    (h2 : ∀ si, pm.idx "MaxSpeed" = some si → Src16 m si)
    (h3 : ∀ si, pm.idx "AvgAltitude" = some si → Src16 m si)
    (h4 : ∀ si, pm.idx "MaxAltitude" = some si → Src16 m si)
    (h5 : ∀ si, pm.idx "MinAltitude" = some si → Src16 m si) :
    expand P m g = XSpec.expandSpec q P m g := by
  rw [expandSpec_some hpm]
  rcases or_assoc.2 hnum with h | h
  · rw [expand_speedAlt5 hpm h, rulesFor_speedAlt5 h]
    exact (speedAlt5_eq q pm m g h1 h2 h3 h4 h5).symm
  · rw [expand_segmentLap hpm h, h, rulesFor_segmentLap]
    exact (segmentLap_eq q pm m g h3 h4 h5).symm

/-- the hypothesis is what the decoder produces: a lap with avg_speed 1000 and the other sources
    invalid satisfies it, and both sides put 1000 into enhanced_avg_speed (kernel-evaluated on the
    regenerated profile) -/
example :
    (match Gen.profile.msg? mnLap with
     | some pm =>
       let m : Msg := ⟨mnLap, (pm.invalid.zipIdx.map fun (v, i) => if pm.idx "AvgSpeed" = some i then Val.u 1000 else v)⟩
       (expand Gen.profile m {}).1 == (XSpec.expandSpec {} Gen.profile m {}).1 &&
       (match pm.idx "EnhancedAvgSpeed" with
        | some di => (expand Gen.profile m {}).1.vals[di]? == some (Val.u 1000)
        | none => false)
     | none => false) = true := by decide +kernel

/-- Boolean form of the typing hypotheses: a scalar slot (if the field exists and is set) holds an
    unsigned value below `2^bits` -/
def srcUB (bits : Nat) (m : Msg) (i : Option Nat) : Bool :=
  match i with
  | none => true
  | some i =>
    match m.vals[i]? with
    | none => true
    | some (.u n) => decide (n < 2 ^ bits)
    | _ => false

def srcBytesB (m : Msg) (i : Option Nat) : Bool :=
  match i with
  | none => true
  | some i =>
    match m.vals[i]? with
    | none => true
    | some (.us none) => true
    | some (.us (some bs)) => bs.all (fun b => decide (b < 256))
    | _ => false

theorem srcUB_sound {bits : Nat} {m : Msg} {oi : Option Nat} (h : srcUB bits m oi = true) :
    ∀ i, oi = some i → SrcU bits m i := by
  intro i hi v hv
  subst hi
  simp only [srcUB, hv] at h
  cases v with
  | u n => exact ⟨n, rfl, by simpa using h⟩
  | _ => simp at h

theorem srcBytesB_sound {m : Msg} {oi : Option Nat} (h : srcBytesB m oi = true) : ∀ i, oi = some i → SrcBytes m i := by
  intro i hi v hv
  subst hi
  simp only [srcBytesB, hv] at h
  cases v with
  | us o =>
    refine ⟨o, rfl, ?_⟩
    intro bs hbs b hb
    subst hbs
    simp only [List.all_eq_true, decide_eq_true_eq] at h
    exact h b hb
  | _ => simp at h

def recordTypedB (pm : PMsg) (m : Msg) : Bool :=
  srcUB 16 m (pm.idx "Altitude") && srcUB 16 m (pm.idx "Speed") &&
  ((pm.idx "Speed").isSome && (pm.idx "Distance").isSome && (pm.idx "CompressedSpeedDistance").isSome &&
    (pm.idx "Cycles").isSome && (pm.idx "TotalCycles").isSome && (pm.idx "CompressedAccumulatedPower").isSome &&
    (pm.idx "AccumulatedPower").isSome) &&
  srcBytesB m (pm.idx "CompressedSpeedDistance") && srcUB 8 m (pm.idx "Cycles") &&
  srcUB 16 m (pm.idx "CompressedAccumulatedPower")

theorem recordTypedB_sound {pm : PMsg} {m : Msg} (h : recordTypedB pm m = true) : RecordTyped pm m := by
  unfold recordTypedB at h
  simp only [Bool.and_eq_true] at h
  obtain ⟨⟨⟨⟨⟨h1, h2⟩, ⟨⟨⟨⟨⟨⟨n1, n2⟩, n3⟩, n4⟩, n5⟩, n6⟩, n7⟩⟩, h3⟩, h4⟩, h5⟩ := h
  exact ⟨srcUB_sound h1, srcUB_sound h2, ⟨n1, n2, n3, n4, n5, n6, n7⟩, srcBytesB_sound h3,
    srcUB_sound h4, srcUB_sound h5⟩

def eventTypedB (pm : PMsg) (m : Msg) : Bool :=
  srcUB 16 m (pm.idx "Data16") && srcUB 32 m (pm.idx "Data") &&
  ((pm.idx "Data").isSome && (pm.idx "Event").isSome && (pm.idx "Score").isSome && (pm.idx "OpponentScore").isSome &&
    (pm.idx "RearGearNum").isSome && (pm.idx "RearGear").isSome && (pm.idx "FrontGearNum").isSome &&
    (pm.idx "FrontGear").isSome)

theorem eventTypedB_sound {pm : PMsg} {m : Msg} (h : eventTypedB pm m = true) : EventTyped pm m := by
  unfold eventTypedB at h
  simp only [Bool.and_eq_true] at h
  obtain ⟨⟨h1, h2⟩, ⟨⟨⟨⟨⟨⟨⟨n1, n2⟩, n3⟩, n4⟩, n5⟩, n6⟩, n7⟩, n8⟩⟩ := h
  exact ⟨srcUB_sound h1, srcUB_sound h2, ⟨n1, n2, n3, n4, n5, n6, n7, n8⟩⟩

/-- the typing check for whichever of the five kinds the message is (true for any other message); it also asks
    that the struct fields of record and event exist in `pm` -/
def typedB (P : Profile) (m : Msg) : Bool :=
  match P.msg? m.num with
  | none => true
  | some pm =>
    if m.num = mnRecord then recordTypedB pm m
    else if m.num = mnEvent then eventTypedB pm m
    else if m.num = mnSession ∨ m.num = mnLap ∨ m.num = mnSegmentLap then
      srcUB 16 m (pm.idx "AvgSpeed") && srcUB 16 m (pm.idx "MaxSpeed") && srcUB 16 m (pm.idx "AvgAltitude") &&
        srcUB 16 m (pm.idx "MaxAltitude") && srcUB 16 m (pm.idx "MinAltitude")
    else true

/-- **`expandComponents` is the profile's component rules with exactly the recorded deviations.**
    For every message whose component sources hold the kinds of value the decoder stores (`typedB`),
    of any type: the statement-by-statement model `expand` of the generated code equals the generic,
    rule-driven specification `expandSpec` with D10 (distance loses its top nibble) and D11
    (total_cycles / accumulated_power accumulators with mask 0) switched on — message and
    accumulators alike. Nothing else separates the code from the profile's rules. -/
theorem expand_eq_spec (P : Profile) (m : Msg) (g : Globals) (h : typedB P m = true) :
    expand P m g = XSpec.expandSpec codeQuirks P m g := by
  unfold typedB at h
  cases hpm : P.msg? m.num with
  | none => rw [expand_of_none hpm, XSpec.expandSpec, hpm]
  | some pm =>
    rw [hpm] at h
    dsimp only at h
    split at h
    · rename_i hr
      rw [expand_record hpm hr, expandSpec_some hpm, hr]
      exact (record_eq pm m g (recordTypedB_sound h)).symm
    · split at h
      · rename_i he
        rw [expand_event hpm he, expandSpec_some hpm, he]
        exact (event_eq codeQuirks pm m g (eventTypedB_sound h)).symm
      · split at h
        · rename_i hs
          simp only [Bool.and_eq_true] at h
          obtain ⟨⟨⟨⟨h1, h2⟩, h3⟩, h4⟩, h5⟩ := h
          exact expand_eq_rules_lap_session_segment codeQuirks P m g pm hpm hs (srcUB_sound h1) (srcUB_sound h2)
            (srcUB_sound h3) (srcUB_sound h4) (srcUB_sound h5)
        · rename_i hr he hs
          simp only [not_or] at hs
          have hn : m.num ∉ expandSet := by simp [expandSet, hr, he, hs]
          rw [expand_other hn, expandSpec_some hpm, rulesFor_other hn]
          rfl

set_option maxRecDepth 100000 in
/-- non-vacuity on the regenerated profile: a record with compressed_speed_distance [0x12, 0x34, 0xAB]
    (the D10 pattern), cycles 7 and compressed_accumulated_power 300 passes the typing check, and the
    two sides agree on it — the distance they both produce is the truncated 0xB3, not 0xAB3 -/
example :
    (match Gen.profile.msg? mnRecord with
     | some pm =>
       let m : Msg := ⟨mnRecord, (pm.invalid.zipIdx.map fun (v, i) =>
         if pm.idx "CompressedSpeedDistance" = some i then Val.us (some [0x12, 0x34, 0xAB])
         else if pm.idx "Cycles" = some i then Val.u 7
         else if pm.idx "CompressedAccumulatedPower" = some i then Val.u 300 else v)⟩
       typedB Gen.profile m &&
       ((expand Gen.profile m {}).1 == (XSpec.expandSpec codeQuirks Gen.profile m {}).1) &&
       (match pm.idx "Distance" with
        | some di => (expand Gen.profile m {}).1.vals[di]? == some (Val.u 0xB3)
        | none => false)
     | none => false) = true := by decide +kernel

/-- the record message of the regenerated profile has the three fields the distance run needs -/
theorem gen_record_names : ∃ pm ci si di, Gen.profile.msg? mnRecord = some pm ∧ DistNames pm ci si di ∧
    di < pm.invalid.length := by
  have hk : (match Gen.profile.msg? mnRecord with
      | some pm => (pm.idx "CompressedSpeedDistance").isSome && (pm.idx "Speed").isSome &&
          (match pm.idx "Distance" with | some di => decide (di < pm.invalid.length) | none => false)
      | none => false) = true := by decide +kernel
  cases h : Gen.profile.msg? mnRecord with
  | none => rw [h] at hk; cases hk
  | some pm =>
    rw [h] at hk
    simp only [Bool.and_eq_true] at hk
    obtain ⟨⟨h1, h2⟩, h3⟩ := hk
    obtain ⟨ci, hci⟩ := Option.isSome_iff_exists.mp h1
    obtain ⟨si, hsi⟩ := Option.isSome_iff_exists.mp h2
    cases hd : pm.idx "Distance" with
    | none => rw [hd] at h3; cases h3
    | some di =>
      rw [hd] at h3
      exact ⟨pm, ci, si, di, rfl, ⟨hci, hsi, hd⟩, by simpa using h3⟩

/-- **Accumulated distance = running sum of rollover-corrected deltas.** Records, each carrying
    compressed_speed_distance with raw distance values `ds` (as the generated code extracts them: D10),
    expanded one after another while the package-level accumulator is `g.dist`: their distance fields
    are the running sums, modulo 2^32, of the 12-bit rollover-corrected deltas of `ds`, on top of the
    accumulator in force. If no earlier file left one behind, that is 0 with last raw value 0 — the
    sum "since the start of the same file"; otherwise the run continues the earlier file's (D12). -/
theorem record_distance_running_sum (pm : PMsg) (hpm : Gen.profile.msg? mnRecord = some pm) (ci si di : Nat)
    (hn : DistNames pm ci si di) (ms : List Msg) (hms : ∀ m ∈ ms, m.num = mnRecord ∧ di < m.vals.length)
    (ds : List Nat) (hraw : ms.map (csdRaw pm) = ds.map some) (g : Globals)
    (hmask : g.dist.present = true → g.dist.mask = 2 ^ 12 - 1) :
    (expandList Gen.profile g ms).1.map (fun m => m.vals[di]?) =
      ((prefixSums (effDist g).value (deltas 12 (effDist g).last ds)).map (· % 2 ^ 32)).map fun v => some (Val.u v) :=
  Fit.record_distance_running_sum Gen.profile pm hpm ci si di hn ms hms ds hraw g hmask

/-- from a fresh process: the sums start at 0 and the first delta is the first raw value -/
theorem record_distance_from_zero (pm : PMsg) (hpm : Gen.profile.msg? mnRecord = some pm) (ci si di : Nat)
    (hn : DistNames pm ci si di) (ms : List Msg) (hms : ∀ m ∈ ms, m.num = mnRecord ∧ di < m.vals.length)
    (ds : List Nat) (hraw : ms.map (csdRaw pm) = ds.map some) :
    (expandList Gen.profile {} ms).1.map (fun m => m.vals[di]?) =
      ((prefixSums 0 (deltas 12 0 ds)).map (· % 2 ^ 32)).map fun v => some (Val.u v) :=
  record_distance_running_sum pm hpm ci si di hn ms hms ds hraw {} (fun h => by cases h)

/-- the records of a file in general (some without compressed_speed_distance): `DistRun` -/
theorem record_distance_run (pm : PMsg) (hpm : Gen.profile.msg? mnRecord = some pm) (ci si di : Nat)
    (hn : DistNames pm ci si di) (ms : List Msg) (hms : ∀ m ∈ ms, m.num = mnRecord ∧ di < m.vals.length) (g : Globals) :
    DistRun pm di (effDist g) ms (expandList Gen.profile g ms).1 :=
  expandList_dist Gen.profile pm hpm ci si di hn ms hms g

/-- D11 at the level of a file: an accumulator with mask 0 — what the generated code creates for
    total_cycles and accumulated_power — reports its starting value (0 in a fresh process) for every
    raw value, so those two destinations never move -/
theorem mask_zero_run_constant (ds : List Nat) : accValues Accu.zero ds = ds.map fun _ => 0 :=
  accValues_mask_zero Accu.zero rfl (by decide) ds

set_option maxRecDepth 100000 in
/-- non-vacuity, evaluated: three records with raw distances 0x0F0 → 0x0F8 → 0x003 (the low byte
    the generated code keeps: 0xF0, 0xF8, 0x03) from a fresh process give 0xF0, 0xF8 and, across the
    12-bit rollover, 0xF8 + 0xF0B = 0x1003 -/
example :
    (match Gen.profile.msg? mnRecord with
     | some pm =>
       let mk (b1 b2 : Nat) : Msg := ⟨mnRecord, (pm.invalid.zipIdx.map fun (v, i) =>
         if pm.idx "CompressedSpeedDistance" = some i then Val.us (some [0x00, b1, b2]) else v)⟩
       let ms := [mk 0x00 0x0F, mk 0x80 0x0F, mk 0x30 0x00]
       (ms.map (csdRaw pm) == [some 0xF0, some 0xF8, some 0x03]) &&
       (match pm.idx "Distance" with
        | some di => (expandList Gen.profile {} ms).1.map (fun m => m.vals[di]?) ==
            [some (Val.u 0xF0), some (Val.u 0xF8), some (Val.u 0x1003)] &&
            ((prefixSums 0 (deltas 12 0 [0xF0, 0xF8, 0x03])).map (· % 2 ^ 32) == [0xF0, 0xF8, 0x1003])
        | none => false)
     | none => false) = true := by decide +kernel

end Fit.Props.C18
