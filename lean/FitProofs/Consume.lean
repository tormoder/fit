import FitModel.Source
/-
  The specification interpreters only ever move forward in the byte list: the state after a run
  is the state before it advanced by the bytes consumed (`SpecSt.adv`).  That a successful run does
  not notice appended input (`_extend`) is a second induction over the programs.
-/
namespace Fit

def SpecSt.adv (s : SpecSt) (k : Nat) : SpecSt := { s with rest := s.rest.drop k, taken := s.taken + k }

@[simp] theorem SpecSt.adv_rest (s : SpecSt) (k : Nat) : (s.adv k).rest = s.rest.drop k := rfl
@[simp] theorem SpecSt.adv_taken (s : SpecSt) (k : Nat) : (s.adv k).taken = s.taken + k := rfl

@[simp] theorem SpecSt.adv_adv (s : SpecSt) (a b : Nat) : (s.adv a).adv b = s.adv (a + b) := by
  simp [SpecSt.adv, Nat.add_assoc]

/-- sets the ghost field `frameEnd` (where the data area ends); no interpreter reads it -/
def SpecSt.framed (s : SpecSt) (fe : Nat) : SpecSt := { s with frameEnd := fe }

@[simp] theorem SpecSt.framed_rest (s : SpecSt) (fe : Nat) : (s.framed fe).rest = s.rest := rfl
@[simp] theorem SpecSt.framed_adv (s : SpecSt) (k fe : Nat) : (s.framed fe).adv k = (s.adv k).framed fe := rfl

theorem runSpecT_readDirect {α} (k : Nat) (onErr : Nat → Stop → α) (cont : Bytes → TProg α) (s : SpecSt) :
    runSpecT (.readDirect k onErr cont) s =
      if k ≤ s.rest.length then runSpecT (cont (s.rest.take k)) (s.adv k)
      else (onErr s.rest.length s.stop, s.adv s.rest.length) := by
  simp [runSpecT, SpecSt.adv]

theorem runSpec_readDirect {α ε β} (k : Nat) (onErr : Nat → Stop → α) (cont : Bytes → HProg α ε β) (s : SpecSt) :
    runSpec (.readDirect k onErr cont) s =
      if k ≤ s.rest.length then runSpec (cont (s.rest.take k)) (s.adv k)
      else (onErr s.rest.length s.stop, s.adv s.rest.length) := by
  simp [runSpec, SpecSt.adv]

theorem runSpec_copyAll {α ε β} (limit : Nat) (onErr : Stop → α) (cont : Bytes → TProg α) (s : SpecSt) :
    runSpec (.copyAll limit onErr cont : HProg α ε β) s =
      if limit ≤ s.rest.length then
        runSpecT (cont (s.rest.take limit)) ((s.adv limit).framed (s.taken + limit))
      else (onErr s.stop, (s.adv s.rest.length).framed (s.taken + limit)) := by
  simp [runSpec, SpecSt.adv, SpecSt.framed]

theorem runSpecD_readBuf {ε β} (limit k : Nat) (onErr : RdStop → ε) (cont : Bytes → DProg ε β) (n : Nat) (s : SpecSt) :
    runSpecD limit (.readBuf k onErr cont) n s =
      if k ≤ limit - n ∧ k ≤ s.rest.length then runSpecD limit (cont (s.rest.take k)) (n + k) (s.adv k)
      else (.inl (onErr (if limit - n ≤ s.rest.length then .limit else .ofStop s.stop)), n, s) := by
  simp only [runSpecD, SpecSt.adv]
  split
  · rfl
  · split <;> rfl

theorem runSpec_data_def {α ε β} (limit : Nat) (p : DProg ε β) (onExit : ε → α) (onBad : β → α) (after : β → TProg α)
    (s : SpecSt) :
    runSpec (.data limit p onExit onBad after) s =
      match runSpecD limit p 0 (s.framed (s.taken + limit)) with
      | (.inl e, _, s') => (onExit e, s')
      | (.inr x, n, s') => if n = limit then runSpecT (after x) s' else (onBad x, s') := rfl

theorem runSpec_dataOnly_def {α ε β} (limit : Nat) (p : DProg ε β) (onExit : ε → α) (fin : β → α) (s : SpecSt) :
    runSpec (.dataOnly limit p onExit fin) s =
      match runSpecD limit p 0 (s.framed (s.taken + limit)) with
      | (.inl e, _, s') => (onExit e, s')
      | (.inr x, _, s') => (fin x, s') := rfl

theorem runSpecD_shape {ε β} (limit : Nat) (p : DProg ε β) (n : Nat) (s : SpecSt) :
    ∃ o j, j ≤ s.rest.length ∧ (n ≤ limit → n + j ≤ limit) ∧ runSpecD limit p n s = (o, n + j, s.adv j) := by
  induction p generalizing n s with
  | done x => exact ⟨_, 0, Nat.zero_le _, id, rfl⟩
  | exit e => exact ⟨_, 0, Nat.zero_le _, id, rfl⟩
  | readBuf k onErr cont ih =>
    rw [runSpecD_readBuf]
    split
    · obtain ⟨o, j, hj, hl, e⟩ := ih (s.rest.take k) (n + k) (s.adv k)
      rw [SpecSt.adv_rest, List.length_drop] at hj
      exact ⟨o, k + j, by omega, by omega, by rw [e, SpecSt.adv_adv, Nat.add_assoc]⟩
    · exact ⟨_, 0, Nat.zero_le _, id, rfl⟩

/-- no failure handler of the program returns a value satisfying `ok` -/
def TProg.Safe {α} (ok : α → Prop) : TProg α → Prop
  | .done _ => True
  | .readDirect _ onErr cont => (∀ n s, ¬ ok (onErr n s)) ∧ ∀ bs, TProg.Safe ok (cont bs)

def HProg.Safe {α ε β} (ok : α → Prop) : HProg α ε β → Prop
  | .done _ => True
  | .readDirect _ onErr cont => (∀ n s, ¬ ok (onErr n s)) ∧ ∀ bs, HProg.Safe ok (cont bs)
  | .data _ _ onExit onBad after => (∀ e, ¬ ok (onExit e)) ∧ (∀ x, ¬ ok (onBad x)) ∧ ∀ x, TProg.Safe ok (after x)
  | .dataOnly _ _ onExit _ => ∀ e, ¬ ok (onExit e)
  | .copyAll _ onErr cont => (∀ s, ¬ ok (onErr s)) ∧ ∀ bs, TProg.Safe ok (cont bs)

def SpecSt.extend (s : SpecSt) (extra : Bytes) : SpecSt := { s with rest := s.rest ++ extra }

@[simp] theorem SpecSt.extend_rest (s : SpecSt) (extra : Bytes) : (s.extend extra).rest = s.rest ++ extra := rfl

theorem SpecSt.extend_read (s : SpecSt) (extra : Bytes) {k : Nat} (h : k ≤ s.rest.length) :
    k ≤ (s.extend extra).rest.length ∧ (s.extend extra).rest.take k = s.rest.take k ∧
    (s.extend extra).adv k = (s.adv k).extend extra := by
  refine ⟨by rw [extend_rest, List.length_append]; omega, List.take_append_of_le_length h, ?_⟩
  simp only [SpecSt.adv, SpecSt.extend, List.drop_append_of_le_length h]

/-- a trailer run that ends "ok" read only bytes that were there: more input changes nothing -/
theorem runSpecT_extend {α} {ok : α → Prop} (p : TProg α) (hs : p.Safe ok) (s : SpecSt) (extra : Bytes)
    (h : ok (runSpecT p s).1) :
    runSpecT p (s.extend extra) = ((runSpecT p s).1, (runSpecT p s).2.extend extra) := by
  induction p generalizing s with
  | done a => rfl
  | readDirect k onErr cont ih =>
    rw [runSpecT_readDirect k onErr cont s] at h ⊢
    by_cases hk : k ≤ s.rest.length
    · obtain ⟨hk', e1, e2⟩ := s.extend_read extra hk
      rw [if_pos hk] at h ⊢
      rw [runSpecT_readDirect, if_pos hk', e1, e2]
      exact ih _ (hs.2 _) _ h
    · rw [if_neg hk] at h
      exact absurd h (hs.1 _ _)

theorem runSpecD_extend {ε β} (limit : Nat) (p : DProg ε β) (n : Nat) (s : SpecSt) (extra : Bytes) (x : β)
    (h : (runSpecD limit p n s).1 = .inr x) :
    runSpecD limit p n (s.extend extra) =
      (.inr x, (runSpecD limit p n s).2.1, (runSpecD limit p n s).2.2.extend extra) := by
  induction p generalizing n s with
  | done y => cases h; rfl
  | exit e => cases h
  | readBuf k onErr cont ih =>
    by_cases hk : k ≤ limit - n ∧ k ≤ s.rest.length
    · obtain ⟨hk', e1, e2⟩ := s.extend_read extra hk.2
      simp only [runSpecD_readBuf, if_pos hk, if_pos (And.intro hk.1 hk'), e1, e2] at h ⊢
      exact ih _ _ _ h
    · rw [runSpecD_readBuf, if_neg hk] at h
      cases h

theorem runSpec_extend {α ε β} {ok : α → Prop} (p : HProg α ε β) (hs : p.Safe ok) (s : SpecSt) (extra : Bytes)
    (h : ok (runSpec p s).1) :
    runSpec p (s.extend extra) = ((runSpec p s).1, (runSpec p s).2.extend extra) := by
  induction p generalizing s with
  | done a => rfl
  | readDirect k onErr cont ih =>
    rw [runSpec_readDirect k onErr cont s] at h ⊢
    by_cases hk : k ≤ s.rest.length
    · obtain ⟨hk', e1, e2⟩ := s.extend_read extra hk
      rw [if_pos hk] at h ⊢
      rw [runSpec_readDirect, if_pos hk', e1, e2]
      exact ih _ (hs.2 _) _ h
    · rw [if_neg hk] at h
      exact absurd h (hs.1 _ _)
  | data limit p onExit onBad after =>
    obtain ⟨o, j, _, _, eD⟩ := runSpecD_shape limit p 0 (s.framed (s.taken + limit))
    rw [Nat.zero_add] at eD
    rw [runSpec_data_def limit p onExit onBad after s, eD] at h ⊢
    cases o with
    | inl y => exact absurd h (hs.1 y)
    | inr x =>
      -- the data phase ended normally, so it does the same on the longer input
      have hx : runSpecD limit p 0 ((s.extend extra).framed ((s.extend extra).taken + limit)) = _ :=
        runSpecD_extend limit p 0 (s.framed (s.taken + limit)) extra x (by rw [eD])
      rw [eD] at hx
      rw [runSpec_data_def, hx]
      dsimp only at h ⊢
      by_cases hn : j = limit
      · simp only [if_pos hn] at h ⊢
        exact runSpecT_extend (after x) (hs.2.2 x) _ extra h
      · rw [if_neg hn] at h
        exact absurd h (hs.2.1 x)
  | dataOnly limit p onExit fin =>
    obtain ⟨o, j, _, _, eD⟩ := runSpecD_shape limit p 0 (s.framed (s.taken + limit))
    rw [Nat.zero_add] at eD
    rw [runSpec_dataOnly_def limit p onExit fin s, eD] at h ⊢
    cases o with
    | inl y => exact absurd h (hs y)
    | inr x =>
      have hx : runSpecD limit p 0 ((s.extend extra).framed ((s.extend extra).taken + limit)) = _ :=
        runSpecD_extend limit p 0 (s.framed (s.taken + limit)) extra x (by rw [eD])
      rw [eD] at hx
      rw [runSpec_dataOnly_def, hx]
  | copyAll limit onErr cont =>
    rw [runSpec_copyAll limit onErr cont s] at h ⊢
    by_cases hk : limit ≤ s.rest.length
    · obtain ⟨hk', e1, e2⟩ := s.extend_read extra hk
      rw [if_pos hk] at h ⊢
      rw [runSpec_copyAll, if_pos hk', e1, e2]
      exact runSpecT_extend (cont _) (hs.2 _) _ extra h
    · rw [if_neg hk] at h
      exact absurd h (hs.1 _)

end Fit
