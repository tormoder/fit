import FitModel.ExpandSpec
import FitProofs.ListLemmas
import FitProofs.Routing
/-
  C18: `expand`, transcribed from the `expandComponents` methods of messages.go (and tied to them by the
  correspondence run), against `expandSpec`, the profile's component rules interpreted generically.
  A rule list is applied rule by rule and a transcribed function is a sequence of steps, so the
  comparison is one rule against one step; what a step leaves alone (`Sets`) carries the typing of
  the later sources across the earlier steps.
-/
namespace Fit
open Fit.XSpec

theorem fnames_of_idx {pm : PMsg} {name : String} {i : Nat} (h : pm.idx name = some i) : pm.fnames[i]? = some name := by
  unfold PMsg.idx at h
  simp only at h
  split at h
  · rename_i hlt
    cases h
    rw [List.getElem?_eq_getElem hlt, List.getElem_idxOf hlt]
  · cases h

theorem idx_inj {pm : PMsg} {a b : String} {i : Nat} (ha : pm.idx a = some i) (hb : pm.idx b = some i) : a = b :=
  Option.some.inj ((fnames_of_idx ha).symm.trans (fnames_of_idx hb))

theorem idx_ne {pm : PMsg} {a b : String} {i j : Nat} (ha : pm.idx a = some i) (hb : pm.idx b = some j) (hab : a ≠ b) :
    i ≠ j := fun e => hab (idx_inj (e ▸ ha) hb)

theorem expand_record {P : Profile} {m : Msg} {pm : PMsg} (hpm : P.msg? m.num = some pm) (h : m.num = mnRecord)
    (g : Globals) : expand P m g = expandRecord pm m g := by
  unfold expand; rw [hpm]; exact if_pos h

theorem expand_speedAlt5 {P : Profile} {m : Msg} {pm : PMsg} (hpm : P.msg? m.num = some pm)
    (h : m.num = mnSession ∨ m.num = mnLap) (g : Globals) : expand P m g = (expandSpeedAlt5 pm m, g) := by
  unfold expand; rw [hpm]; dsimp only
  rw [if_neg (by rcases h with h | h <;> rw [h] <;> decide), if_pos h]

theorem expand_segmentLap {P : Profile} {m : Msg} {pm : PMsg} (hpm : P.msg? m.num = some pm) (h : m.num = mnSegmentLap)
    (g : Globals) : expand P m g = (expandSegmentLap pm m, g) := by
  unfold expand; rw [hpm]; dsimp only
  rw [if_neg (by rw [h]; decide), if_neg (by rw [h]; decide), if_pos h]

theorem expand_event {P : Profile} {m : Msg} {pm : PMsg} (hpm : P.msg? m.num = some pm) (h : m.num = mnEvent)
    (g : Globals) : expand P m g = (expandEvent pm m, g) := by
  unfold expand; rw [hpm]; dsimp only
  rw [if_neg (by rw [h]; decide), if_neg (by rw [h]; decide), if_neg (by rw [h]; decide), if_pos h]

theorem expand_other {P : Profile} {m : Msg} (h : m.num ∉ expandSet) (g : Globals) : expand P m g = (m, g) := by
  unfold expand
  split
  · rfl
  · simp only [expandSet, List.mem_cons, List.not_mem_nil, or_false, not_or] at h
    obtain ⟨hsession, hlap, hrecord, hevent, hsegment⟩ := h
    rw [if_neg hrecord, if_neg (not_or.mpr ⟨hsession, hlap⟩), if_neg hsegment, if_neg hevent]

theorem expand_of_none {P : Profile} {m : Msg} (h : P.msg? m.num = none) (g : Globals) : expand P m g = (m, g) := by
  unfold expand; rw [h]

theorem expandMsg_eq_expand (P : Profile) (m : Msg) (g : Globals) : expandMsg P m g = expand P m g := by
  unfold expandMsg
  split
  · rfl
  · rename_i h
    exact (expand_other (by simpa using h) g).symm

theorem rulesFor_speedAlt5 {n : Nat} (h : n = mnSession ∨ n = mnLap) : rulesFor n = speedAlt5 := by
  rcases h with rfl | rfl <;> rfl

theorem rulesFor_segmentLap : rulesFor mnSegmentLap = speedAlt5.drop 2 := rfl

theorem rulesFor_other {n : Nat} (h : n ∉ expandSet) : rulesFor n = [] := by
  simp only [expandSet, List.mem_cons, List.not_mem_nil, or_false, not_or] at h
  obtain ⟨hsession, hlap, hrecord, hevent, hsegment⟩ := h
  unfold rulesFor
  rw [if_neg hrecord, if_neg (not_or.mpr ⟨hsession, hlap⟩), if_neg hsegment, if_neg hevent]

theorem expandSpec_some {P : Profile} {m : Msg} {pm : PMsg} (hpm : P.msg? m.num = some pm) (q : Quirks) (g : Globals) :
    expandSpec q P m g = applyRules q pm (rulesFor m.num) m g := by
  unfold expandSpec; rw [hpm]

theorem setU_vals {i j : Nat} (h : i ≠ j) (m : Msg) (n : Nat) : (m.setU i n).vals[j]? = m.vals[j]? :=
  getElem?_setAt_ne _ _ _ _ h

/-- names of the struct fields `expandComponents` writes -/
def expandDests : List String :=
  ["EnhancedAvgSpeed", "EnhancedMaxSpeed", "EnhancedAvgAltitude", "EnhancedMaxAltitude", "EnhancedMinAltitude",
   "EnhancedAltitude", "EnhancedSpeed", "Speed", "Distance", "TotalCycles", "AccumulatedPower", "Data", "Score",
   "OpponentScore", "RearGearNum", "RearGear", "FrontGearNum", "FrontGear"]

/-- `m'` comes from `m` by storing unsigned numbers in fields named in `D`: all that component
    expansion does to a message -/
inductive Sets (pm : PMsg) (D : List String) (m : Msg) : Msg → Prop
  | refl : Sets pm D m m
  | setU {m' : Msg} {name : String} {i : Nat} (n : Nat) :
      Sets pm D m m' → name ∈ D → pm.idx name = some i → Sets pm D m (m'.setU i n)

namespace Sets
variable {pm : PMsg} {D : List String} {m m' m'' : Msg}

theorem mono {D' : List String} (h : Sets pm D m m') (hD : ∀ name ∈ D, name ∈ D') : Sets pm D' m m' := by
  induction h with
  | refl => exact refl
  | setU n _ hn hi ih => exact ih.setU n (hD _ hn) hi

theorem trans {D' : List String} (h : Sets pm D m m') (h' : Sets pm D' m' m'') : Sets pm (D ++ D') m m'' := by
  induction h' with
  | refl => exact h.mono fun _ => List.mem_append_left _
  | setU n _ hD hi ih => exact ih.setU n (List.mem_append_right _ hD) hi

theorem num (h : Sets pm D m m') : m'.num = m.num := by
  induction h with
  | refl => rfl
  | setU n _ _ _ ih => exact ih

theorem length (h : Sets pm D m m') : m'.vals.length = m.vals.length := by
  induction h with
  | refl => rfl
  | setU n _ _ _ ih => exact (length_setAt ..).trans ih

theorem vals (h : Sets pm D m m') {name : String} {j : Nat} (hj : pm.idx name = some j) (hn : name ∉ D) :
    m'.vals[j]? = m.vals[j]? := by
  induction h with
  | refl => rfl
  | setU n _ hD hi ih =>
    rw [setU_vals (idx_ne hi hj fun e => hn (e ▸ hD))]
    exact ih

/-- for event's "Data": a destination and a later source, so `vals` does not apply -/
theorem scalar (s : Sets pm D m m') {j : Nat} (h : ∀ v, m.vals[j]? = some v → ∃ n, v = .u n) :
    ∀ v, m'.vals[j]? = some v → ∃ n, v = .u n := by
  induction s with
  | refl => exact h
  | @setU m' _ i n _ _ _ ih =>
    intro v hv
    by_cases e : i = j
    · subst e
      have hv : (setAt m'.vals i (.u n))[i]? = some v := hv
      rw [getElem?_setAt_self _ _ _ (length_setAt .. ▸ (List.getElem?_eq_some_iff.mp hv).1)] at hv
      exact ⟨n, (Option.some.inj hv).symm⟩
    · exact ih v (setU_vals e m' n ▸ hv)

end Sets

/-- `copyIfValid`, `expandCycles` and `expandPower` are instances of this shape, by `rfl` -/
def onValid {β : Type} (pm : PMsg) (m : Msg) (src dst : String) (inv : Nat) (dflt : β) (f : Nat → Nat → β) : β :=
  match pm.idx src, pm.idx dst with
  | some si, some di =>
    match m.getU si with
    | some v => if v ≠ inv then f di v else dflt
    | none => dflt
  | _, _ => dflt

theorem onValid_elim {β : Type} {pm : PMsg} {m : Msg} {src dst : String} {inv : Nat} {dflt : β} {f : Nat → Nat → β}
    {p : β → Prop} (hd : p dflt) (hf : ∀ di v, pm.idx dst = some di → p (f di v)) : p (onValid pm m src dst inv dflt f) := by
  unfold onValid
  split
  · split
    · split
      · exact hf _ _ ‹_›
      · exact hd
    · exact hd
  · exact hd

theorem onValid_map {β γ : Type} (h : β → γ) (pm : PMsg) (m : Msg) (src dst : String) (inv : Nat) (dflt : β)
    (f : Nat → Nat → β) :
    h (onValid pm m src dst inv dflt f) = onValid pm m src dst inv (h dflt) fun di v => h (f di v) := by
  unfold onValid
  split
  · split
    · split <;> rfl
    · rfl
  · rfl

theorem onValid_of_invalid {β : Type} {pm : PMsg} {m : Msg} {src dst : String} {inv : Nat} {dflt : β} {f : Nat → Nat → β}
    (h : ∀ si, pm.idx src = some si → m.getU si = some inv) : onValid pm m src dst inv dflt f = dflt := by
  unfold onValid
  split
  · rename_i hsi _
    rw [h _ hsi]
    exact if_neg (not_not_intro rfl)
  · rfl

theorem onValid_of_valid {β : Type} {pm : PMsg} {m : Msg} {src dst : String} {inv si di v : Nat} {dflt : β}
    {f : Nat → Nat → β} (hs : pm.idx src = some si) (hd : pm.idx dst = some di) (hv : m.getU si = some v) (hne : v ≠ inv) :
    onValid pm m src dst inv dflt f = f di v := by
  unfold onValid
  rw [hs, hd]
  dsimp only
  rw [hv]
  exact if_pos hne

theorem copyIfValid_eq (pm : PMsg) (m : Msg) (src dst : String) (inv : Nat) :
    copyIfValid pm m src dst inv = onValid pm m src dst inv m fun di v => m.setU di v := rfl

theorem copyIfValid_sets (pm : PMsg) (m : Msg) (src dst : String) (inv : Nat) :
    Sets pm [dst] m (copyIfValid pm m src dst inv) :=
  onValid_elim .refl fun _ _ hdi => Sets.refl.setU _ (List.mem_singleton_self _) hdi

/-- `SrcU 16` with 65536 written out, definitionally: hypotheses of either form are passed for the other -/
def Src16 (m : Msg) (si : Nat) : Prop :=
  ∀ v, m.vals[si]? = some v → ∃ n, v = .u n ∧ n < 65536

/-- what a `bits`-bit scalar source holds, if anything: an unsigned number below `2 ^ bits`, never an array -/
def SrcU (bits : Nat) (m : Msg) (si : Nat) : Prop :=
  ∀ v, m.vals[si]? = some v → ∃ n, v = .u n ∧ n < 2 ^ bits

/-- what a byte-array source holds, if anything: an array of bytes, or the nil array -/
def SrcBytes (m : Msg) (si : Nat) : Prop :=
  ∀ v, m.vals[si]? = some v → ∃ o : Option (List Nat), v = .us o ∧ ∀ bs, o = some bs → ∀ b ∈ bs, b < 256

theorem Sets.srcU {pm : PMsg} {D : List String} {m m' : Msg} {name : String} {bits : Nat} (s : Sets pm D m m')
    (hn : name ∉ D) (h : ∀ i, pm.idx name = some i → SrcU bits m i) : ∀ i, pm.idx name = some i → SrcU bits m' i :=
  fun i hi v hv => h i hi v (s.vals hi hn ▸ hv)

theorem SrcU.cases {bits : Nat} {m : Msg} {i : Nat} (h : SrcU bits m i) :
    m.vals[i]? = none ∨ ∃ n, m.vals[i]? = some (.u n) ∧ n < 2 ^ bits := by
  cases hv : m.vals[i]? with
  | none => exact .inl rfl
  | some v =>
    obtain ⟨n, rfl, hn⟩ := h v hv
    exact .inr ⟨n, rfl, hn⟩

theorem applyRules_cons (q : Quirks) (pm : PMsg) (r : Rule) (rs : List Rule) (m : Msg) (g : Globals) :
    applyRules q pm (r :: rs) m g =
      applyRules q pm rs (applyRules q pm [r] m g).1 (applyRules q pm [r] m g).2 := by
  simp only [applyRules]
  split
  · rfl
  · split <;> rfl

/-- the accumulator a destination starts with: all that D11 decides -/
def freshAccu (q : Quirks) (dst : String) (bits : Nat) : Accu :=
  if (q.d11c ∧ dst = "TotalCycles") ∨ (q.d11p ∧ dst = "AccumulatedPower") then Accu.zero else Accu.new bits

/-- one component on a scalar source, for every `q`: D10's guard in `applyComps` asks for a byte-array source
    (the `Bool.false_eq_true, and_false, false_and` at the end), and `% 2 ^ bits` is the identity on the value -/
theorem rule_scalar {q : Quirks} {pm : PMsg} {src dst : String} {inv bits : Nat} {acc : Bool} {m : Msg} {g : Globals}
    (ht : ∀ si, pm.idx src = some si → SrcU bits m si) :
    applyRules q pm [⟨src, inv, [⟨dst, bits, acc⟩], []⟩] m g =
      onValid pm m src dst inv (m, g) fun di v =>
        if acc then
          let r := (if (accuOf g dst).present then accuOf g dst else freshAccu q dst bits).accumulate v
          (m.setU di r.2, setAccu g dst r.1)
        else (m.setU di v, g) := by
  simp only [applyRules, List.isEmpty_nil, Bool.true_or, ↓reduceIte]
  unfold onValid freshAccu
  cases hs : pm.idx src with
  | none => rfl
  | some si =>
    cases hd : pm.idx dst with
    | none =>
      simp only [applyComps, hd]
      split <;> rfl
    | some di =>
      rcases (ht si hs).cases with e | ⟨n, e, hn⟩
      · simp only [srcValue, Msg.getU, e]
      · by_cases hinv : n = inv
        · simp only [srcValue, Msg.getU, e, hinv, ↓reduceIte, ne_eq, not_true_eq_false]
        · simp only [srcValue, Msg.getU, e, hinv, ↓reduceIte, applyComps, hd, Nat.mod_eq_of_lt hn, ne_eq, not_false_eq_true,
            Bool.false_eq_true, and_false, false_and]

theorem rule_copy {q : Quirks} {pm : PMsg} {src dst : String} {inv : Nat} (bits : Nat) {m : Msg} {g : Globals}
    (ht : ∀ si, pm.idx src = some si → SrcU bits m si) :
    applyRules q pm [⟨src, inv, [⟨dst, bits, false⟩], []⟩] m g = (copyIfValid pm m src dst inv, g) := by
  rw [rule_scalar ht, copyIfValid_eq, onValid_map (·, g)]
  rfl

/-- `hne` (no source is a destination) is why the typing of the later sources survives -/
theorem copyRules_eq (q : Quirks) (pm : PMsg) (inv bits : Nat) (g : Globals) (cs : List (String × String)) (m : Msg)
    (ht : ∀ c ∈ cs, ∀ si, pm.idx c.1 = some si → SrcU bits m si)
    (hne : ∀ c ∈ cs, ∀ c' ∈ cs, c.1 ≠ c'.2) :
    applyRules q pm (cs.map fun c => ⟨c.1, inv, [⟨c.2, bits, false⟩], []⟩) m g =
      (cs.foldl (fun m c => copyIfValid pm m c.1 c.2 inv) m, g) := by
  induction cs generalizing m with
  | nil => rfl
  | cons c cs ih =>
    rw [List.map_cons, applyRules_cons, rule_copy _ (ht c (List.mem_cons_self ..)), List.foldl_cons]
    refine ih _ (fun c' hc' => ?_) fun a ha b hb => hne a (List.mem_cons_of_mem _ ha) b (List.mem_cons_of_mem _ hb)
    exact (copyIfValid_sets pm m c.1 c.2 inv).srcU
      (fun h => hne c' (List.mem_cons_of_mem _ hc') c (List.mem_cons_self ..) (List.mem_singleton.mp h))
      (ht c' (List.mem_cons_of_mem _ hc'))

theorem speedAlt5_eq (q : Quirks) (pm : PMsg) (m : Msg) (g : Globals)
    (h1 : ∀ si, pm.idx "AvgSpeed" = some si → Src16 m si)
    (h2 : ∀ si, pm.idx "MaxSpeed" = some si → Src16 m si)
    (h3 : ∀ si, pm.idx "AvgAltitude" = some si → Src16 m si)
    (h4 : ∀ si, pm.idx "MaxAltitude" = some si → Src16 m si)
    (h5 : ∀ si, pm.idx "MinAltitude" = some si → Src16 m si) :
    applyRules q pm speedAlt5 m g = (expandSpeedAlt5 pm m, g) := by
  show applyRules q pm
    ([("AvgSpeed", "EnhancedAvgSpeed"), ("MaxSpeed", "EnhancedMaxSpeed"), ("AvgAltitude", "EnhancedAvgAltitude"),
      ("MaxAltitude", "EnhancedMaxAltitude"), ("MinAltitude", "EnhancedMinAltitude")].map
        fun c => ⟨c.1, 0xFFFF, [⟨c.2, 16, false⟩], []⟩) m g = _
  exact copyRules_eq q pm 0xFFFF 16 g _ m (by simpa using ⟨h1, h2, h3, h4, h5⟩) (by decide)

theorem segmentLap_eq (q : Quirks) (pm : PMsg) (m : Msg) (g : Globals)
    (h3 : ∀ si, pm.idx "AvgAltitude" = some si → Src16 m si)
    (h4 : ∀ si, pm.idx "MaxAltitude" = some si → Src16 m si)
    (h5 : ∀ si, pm.idx "MinAltitude" = some si → Src16 m si) :
    applyRules q pm (speedAlt5.drop 2) m g = (expandSegmentLap pm m, g) := by
  show applyRules q pm
    ([("AvgAltitude", "EnhancedAvgAltitude"), ("MaxAltitude", "EnhancedMaxAltitude"),
      ("MinAltitude", "EnhancedMinAltitude")].map fun c => ⟨c.1, 0xFFFF, [⟨c.2, 16, false⟩], []⟩) m g = _
  exact copyRules_eq q pm 0xFFFF 16 g _ m (by simpa using ⟨h3, h4, h5⟩) (by decide)

end Fit
