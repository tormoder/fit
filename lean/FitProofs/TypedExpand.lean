import FitProofs.Typed
import FitProofs.ExpandEvent
/-
  `expandComponents` keeps a message well typed: it only stores numbers (`Sets`, `expand_sets`), and
  its destinations are unsigned scalar struct fields (`xokB`).
-/
namespace Fit

/-- evaluated on the regenerated profile (C07 `gen_xok`) -/
def xokB (P : Profile) : Bool :=
  expandSet.all fun n =>
    match P.msg? n with
    | none => true
    | some pm => expandDests.all fun name =>
      match pm.idx name with
      | none => true
      | some i => match pm.layout[i]? with
        | some (.sc (.u _)) => true
        | _ => false

/-- the struct field called `name`, if the message has one, is an unsigned scalar -/
def DestOK (pm : PMsg) (name : String) : Prop :=
  ∀ i, pm.idx name = some i → ∃ w, pm.layout[i]? = some (.sc (.u w))

theorem xokB_dest (P : Profile) (h : xokB P = true) (n : Nat) (hn : n ∈ expandSet) (pm : PMsg) (hpm : P.msg? n = some pm)
    (name : String) (hname : name ∈ expandDests) : DestOK pm name := by
  unfold xokB at h
  simp only [List.all_eq_true] at h
  have h1 := h n hn
  rw [hpm] at h1
  simp only [List.all_eq_true] at h1
  have h2 := h1 name hname
  intro i hi
  rw [hi] at h2
  simp only at h2
  cases hl : pm.layout[i]? with
  | none => rw [hl] at h2; cases h2
  | some k =>
    rw [hl] at h2
    cases k with
    | sc e => cases e with
      | u w => exact ⟨w, rfl⟩
      | _ => cases h2
    | _ => cases h2

theorem setU_typed (pm : PMsg) (m : Msg) (name : String) (i n : Nat) (hi : pm.idx name = some i) (hd : DestOK pm name)
    (h : ValsOK pm.layout m.vals) : ValsOK pm.layout (m.setU i n).vals := by
  obtain ⟨w, hw⟩ := hd i hi
  exact h.set i _ _ hw rfl

theorem Sets.typed {pm : PMsg} {D : List String} {m m' : Msg} (h : Sets pm D m m') (hd : ∀ name ∈ D, DestOK pm name)
    (hv : ValsOK pm.layout m.vals) : ValsOK pm.layout m'.vals := by
  induction h with
  | refl => exact hv
  | setU n _ hD hi ih => exact setU_typed pm _ _ _ _ hi (hd _ hD) ih

theorem copyIfValid_typed (pm : PMsg) (m : Msg) (src dst : String) (inv : Nat) (hd : DestOK pm dst)
    (h : ValsOK pm.layout m.vals) : ValsOK pm.layout (copyIfValid pm m src dst inv).vals :=
  (copyIfValid_sets pm m src dst inv).typed (fun _ hn => List.mem_singleton.1 hn ▸ hd) h

theorem expand_typed (P : Profile) (hx : xokB P = true) (m : Msg) (g : Globals) (h : MsgOK P m) :
    MsgOK P (expand P m g).1 := by
  obtain ⟨pm, hpm, hk, hv⟩ := h
  refine ⟨pm, by rw [expand_num]; exact hpm, hk, ?_⟩
  by_cases hn : m.num ∈ expandSet
  · exact (expand_sets P m g pm hpm).typed (fun name hname => xokB_dest P hx m.num hn pm hpm name hname) hv
  · rw [expand_other hn]; exact hv

end Fit
